/-
  C17 — Split completes the last word of an embedded line and keeps the rest intact.
  For values made of word characters and blanks the `replaceChar` text of each quoting style reads back, by the
  POSIX style reader the lexer implements, as exactly the value.  These are the three texts in the body of
  `splitQuote`; no lemma states that connection.
-/
import Carapace.Model.Split
import Carapace.Spec.Reader.Posix

namespace Carapace.Props.C17
open Carapace.Model Carapace.Spec

abbrev B : Reader Posix.Mode := Posix.reader Posix.bash

/-- "word characters and blanks": plain for the reader, or the blank -/
def WordOrBlank (c : Char) : Prop := Posix.cls c = .plain ∨ c = ' '

/-- `q`: the character the quoting style rewrites (never a word character); `hb`: the blank, by evaluation -/
theorem wordOrBlank_run {m : Posix.Mode} (hm : m ∈ [Posix.Mode.mid, .dq, .sq]) {q : Char} {esc : Str}
    (hq : Posix.cls q ≠ .plain) (hb : B.run m (if ' ' = q then esc else [' ']) = some (m, [Out.lit ' ']))
    {v : Str} (hv : ∀ c ∈ v, WordOrBlank c) : B.run m (replaceChar q esc v) = some (m, v.map Out.lit) := by
  refine B.run_flatMap m v fun c hc => ?_
  rcases hv c hc with h | rfl
  · rw [if_neg (by rintro rfl; exact hq h)]
    simp only [List.mem_cons, List.not_mem_nil, or_false] at hm
    rcases hm with rfl | rfl | rfl <;> simp [Reader.run_singleton, Posix.reader, Posix.step, Posix.stepUnq, h]
  · exact hb

/-- unquoted style: blanks are escaped with a backslash -/
theorem C17_unquoted (v : Str) (hv : ∀ c ∈ v, WordOrBlank c) :
    B.run .mid (replaceChar ' ' ['\\', ' '] v) = some (.mid, v.map Out.lit) :=
  wordOrBlank_run (by simp) (by decide) (by decide) hv

/-- **open double quote**: the typed `"` is open (mode `dq`); value + `"` reads back as the value -/
theorem C17_dquote (v : Str) (hv : ∀ c ∈ v, WordOrBlank c) :
    B.run .dq (replaceChar '"' ['\\', '"'] v ++ ['"']) = some (.mid, v.map Out.lit) :=
  B.run_append_silent (wordOrBlank_run (by simp) (by decide) (by decide) hv)
    (show B.run .dq ['"'] = some (.mid, []) by decide)

/-- **open single quote**: inside single quotes everything but the quote is literal -/
theorem C17_squote (v : Str) (hv : ∀ c ∈ v, WordOrBlank c) :
    B.run .sq (replaceChar '\'' "'\"'\"'".toList v ++ ['\'']) = some (.mid, v.map Out.lit) :=
  B.run_append_silent (wordOrBlank_run (by simp) (by decide) (by decide) hv)
    (show B.run .sq ['\''] = some (.mid, []) by decide)

/-- the typed text in front of the last word is never rewritten - as far as `takeBytesLossy` at the lexer's
    index is that text (false for non-ASCII text in front: finding `split_rune_byte_index`) -/
theorem C17_prefix_preserved (lex : Lex) (text : Str) (vals : List Str) (ns : SuffixMatcher) :
    ∀ cand ∈ splitModel lex text vals ns, ∃ r, cand = Utf8.takeBytesLossy lex.wordsCurIndex text ++ r := by
  intro cand hc
  simp only [splitModel, List.mem_map] at hc
  obtain ⟨v, _, rfl⟩ := hc
  exact ⟨_, rfl⟩

/-- the rune index of the lexer is used as a byte offset: in `é a` the last word starts at rune 2, but two *bytes*
    are the `é` alone; the blank is lost from the prefix (finding `split_rune_byte_index`) -/
theorem C17_rune_byte_counterexample :
    Utf8.takeBytesLossy 2 "é a".toList = "é".toList := by
  repeat rw [String.toList_ofList]
  decide

/-- a blank follows unless no-space applies -/
theorem C17_space (state : String) (ns : SuffixMatcher) (v : Str) :
    (splitQuote state ns v).getLast? = some ' ' ∨ SuffixMatcher.matchesStr ns v = true := by
  cases h : SuffixMatcher.matchesStr ns v with
  | true => exact Or.inr rfl
  | false =>
    -- the text is `q ++ [' ']`, whatever the quoted value `q`
    unfold splitQuote
    rw [h]
    exact Or.inl (List.getLast?_concat ..)

end Carapace.Props.C17

/-
  C01 for the flag-value slot: if the traverse model completes the value of flag `f`, the program's parser gives
  the word typed there to `f`.
-/
import Carapace.Props.C01Slots
import Carapace.Lemmas.Str

namespace Carapace.Props.C01
open Carapace.Model Carapace.Spec

/-- flag names are not empty, do not start with `-` or `=` and contain no `=` -/
def NamesOk (pfs : Pflag.PFlags) : Prop :=
  ∀ f ∈ pfs, f.name ≠ [] ∧ f.name.head? ≠ some '-' ∧ f.name.head? ≠ some '=' ∧ '=' ∉ f.name

theorem parseLong_name {pfs : Pflag.PFlags} (hn : NamesOk pfs) {f : Pflag.PFlag} (hf : Pflag.findLong pfs f.name = some f)
    (nx : Option Str) :
    Pflag.parseLong pfs f.name nx =
      match f.noOptDefVal with
      | some d => .ok ((f.name, d), false)
      | none =>
        match nx with
        | some a => if Pflag.valueOk f a then .ok ((f.name, a), true) else .error .badValue
        | none => .error .needsArg := by
  obtain ⟨hne, h1, h2, heq⟩ := hn f (Pflag.findLong_some hf).1
  have hcut := Str.cutChar_no '=' _ heq
  obtain ⟨c, r, hnm⟩ := List.exists_cons_of_ne_nil hne
  have hc : ¬ (c = '-' ∨ c = '=') := by simpa [hnm] using And.intro h1 h2
  rw [hnm] at hf hcut ⊢
  simp only [Pflag.parseLong, hc, if_false, hcut, hf, hnm]
  rfl

theorem parseLong_name_eq {pfs : Pflag.PFlags} (hn : NamesOk pfs) {f : Pflag.PFlag} (hf : Pflag.findLong pfs f.name = some f)
    (v : Str) (nx : Option Str) :
    Pflag.parseLong pfs (f.name ++ '=' :: v) nx =
      if Pflag.valueOk f v then .ok ((f.name, v), false) else .error .badValue := by
  obtain ⟨hne, h1, h2, heq⟩ := hn f (Pflag.findLong_some hf).1
  have hcut := Str.cutChar_append '=' _ v heq
  obtain ⟨c, r, hnm⟩ := List.exists_cons_of_ne_nil hne
  have hc : ¬ (c = '-' ∨ c = '=') := by simpa [hnm] using And.intro h1 h2
  rw [hnm] at hf hcut ⊢
  simp only [Pflag.parseLong, List.cons_append, hc, if_false] at hcut ⊢
  simp only [hcut, hf, hnm]

/-- `--name` waiting for its value => the parser gives it the next word -/
theorem long_pending {pfs : Pflag.PFlags} (hn : NamesOk pfs) {body : Str} {fd : Found} (v : Str)
    (hl : lookupPosixLong (pfs.map Pflag.PFlag.toDef) body = some fd) (hc : consumes fd = true) :
    ∃ f, f ∈ pfs ∧ f.toDef = fd.flag ∧ body ≠ [] ∧
      (Pflag.valueOk f v = true → Pflag.parseLong pfs body (some v) = .ok ((f.name, v), true)) := by
  obtain ⟨f, hmem, hf, hfd, ⟨rfl, -⟩ | ⟨-, ha⟩⟩ := lookupPosixLong_some hl
  · refine ⟨f, hmem, hfd, (hn f hmem).1, fun hv => ?_⟩
    simp [parseLong_name hn hf, consumes_noDefault hfd hc, hv]
  · -- `--name=value` carries its value: nothing is waited for
    exact absurd (consumes_args hc) ha

/-- `-abf` with `f` waiting => the parser assigns the defaults of `a`, `b` and gives `f` the next word -/
theorem short_pending {pfs : Pflag.PFlags} (v : Str) :
    ∀ (cs pre : Str) (fd : Found),
      lookupPosixShort (pfs.map Pflag.PFlag.toDef) pre cs = some fd → consumes fd = true →
      ∃ f as, f ∈ pfs ∧ f.toDef = fd.flag ∧
        (Pflag.valueOk f v = true → Pflag.parseShort pfs cs (some v) = .ok (as ++ [(f.name, v)], true)) := by
  intro cs
  induction cs with
  | nil => intro pre fd hl; simp [lookupPosixShort] at hl
  | cons c rest ih =>
    intro pre fd hl hc
    obtain ⟨f, hmem, hf, hstep⟩ := lookupPosixShort_cons hl
    cases hstep with
    | last hfd _ hr _ =>
      -- it waits for the next word
      subst hr
      refine ⟨f, [], hmem, hfd, fun hv => ?_⟩
      simp [Pflag.parseShort, hf, Pflag.eqValue, consumes_noDefault hfd hc, hv]
    | value _ _ _ ha | eq _ _ ha =>
      -- the word carries its value: nothing is waited for
      exact absurd (consumes_args hc) ha
    | default dv hdv hne hl' =>
      -- a letter that takes no value: its default, and on
      obtain ⟨g, as, hg, hgd, hp⟩ := ih (pre ++ [c]) fd hl' hc
      exact ⟨g, (f.name, dv) :: as, hg, hgd, fun hv => Pflag.parseShort_default hf hdv hne (hp hv)⟩

theorem loop_pend {t : TTree} {c : Nat} {cs : TCmd} (fs : FlagSet) :
    ∀ (ws : List Str) (st st' : LoopState) (b : Bool), NoChild t c ws →
      PendInv fs st.inArgs st.inFlag → loop t c cs fs ws st = .done st' b →
      b = false → PendInv fs st'.inArgs st'.inFlag := by
  intro ws st st' b hnc hp hl _
  obtain ⟨st'', b', hl', -, hp'⟩ := loop_stay cs fs st hnc
  rw [hl] at hl'
  cases hl'
  exact hp' hp

theorem parseArgs_append_inter {fs : Pflag.PFlags} (tail : List Str) (ht : tail ≠ []) :
    ∀ (ws : List Str) (skip : Bool) (p q : Pflag.Parsed),
      (skip = true → ws ≠ []) →
      Pflag.parseArgs fs true ws skip p = .ok q → q.lenAtDash = none →
      Pflag.parseArgs fs true (ws ++ tail) skip p = Pflag.parseArgs fs true tail false q := by
  intro ws skip p q hskip h hq
  exact Pflag.parseArgs_append_open tail hskip h hq (.inl rfl)

theorem waiting_takes_next {pfs : Pflag.PFlags} (hn : NamesOk pfs) {a : Str} {fd : Found}
    (hl : lookupArg (pfs.map Pflag.PFlag.toDef) a = some fd) (hc : consumes fd = true) (v : Str) :
    ∃ f ∈ pfs, f.toDef = fd.flag ∧ (Pflag.valueOk f v = true → ∀ inter p, ∃ sets,
      Pflag.parseArgs pfs inter [a, v] false p = .ok { p with sets := p.sets ++ sets } ∧
        sets.getLast? = some (f.name, v)) := by
  rcases lookupArg_cases hl with ⟨body, rfl, hlong⟩ | ⟨c, rest, hc', rfl, hshort⟩
  · obtain ⟨f, hmem, hfd, hne, hpl⟩ := long_pending hn v hlong hc
    refine ⟨f, hmem, hfd, fun hv inter p => ⟨[(f.name, v)], ?_, rfl⟩⟩
    simp [Pflag.parseArgs, Pflag.wordKind_long hne, hpl hv]
  · obtain ⟨f, as, hmem, hfd, hpl⟩ := short_pending v (c :: rest) ['-'] fd hshort hc
    refine ⟨f, hmem, hfd, fun hv inter p => ⟨as ++ [(f.name, v)], ?_, by simp⟩⟩
    simp [Pflag.parseArgs, Pflag.wordKind_short hc', hpl hv]

/-- the flag-value slot of any command, interspersed or not (`hopen`: in front of the flag word the parser still reads flags) -/
theorem flag_value_lands {t : TTree} {c : Nat} {cs : TCmd} (h : Stay t c cs) {inter : Bool} (hi : cs.interspersed = inter)
    (hn : NamesOk (flagsAt t (t.size + 1) c)) {fuel : Nat} {ws : List Str} (hnc : NoChild t c ws) {w name : Str}
    (hs : traverseSlot t (fuel + 1) c ws w = .flagValue c name)
    (hopen : ∀ p, Pflag.parse (flagsAt t (t.size + 1) c) inter ws.dropLast = .ok p → inter = true ∨ p.args = []) :
    ∀ v, (∀ f ∈ flagsAt t (t.size + 1) c, f.name = name → Pflag.valueOk f v = true) →
      ∃ p', Pflag.parse (flagsAt t (t.size + 1) c) inter (ws ++ [v]) = .ok p' ∧ p'.sets.getLast? = some (name, v) := by
  subst hi
  intro v hv
  cases traverseSlot_stay h hnc hs with
  | @waits ws0 a fd p hws hla hc _ hp hd =>
    subst hws
    -- the flag word, as carapace and as the parser read it
    obtain ⟨f, hmem, hfd, hpl⟩ := waiting_takes_next hn hla hc v
    have hfn : f.name = fd.flag.name := by rw [← hfd]; rfl
    obtain ⟨sets, hps, hlast⟩ := hpl (hv f hmem hfn) cs.interspersed p
    refine ⟨{ p with sets := p.sets ++ sets }, ?_, by simp [hlast, hfn]⟩
    rw [List.append_assoc, Pflag.parse_append_open hp hd (hopen p (by simpa using hp))]
    exact hps
  | lookup _ _ hk =>
    -- the look-up of the current word never gives this slot
    cases flagOrPositional_view hk

/-- **C01 for the flag-value slot (any interspersed command, as long as the earlier words stay within it).**
    If the traverse model completes the value of flag `name`, then any word the flag's type accepts, typed
    there, is accepted by the program's parser and assigned to that very flag (the last assignment). -/
theorem C01_flag_value_lands {t : TTree} {c : Nat} {cs : TCmd} (h : Stay t c cs) (hi : cs.interspersed = true)
    (hn : NamesOk (flagsAt t (t.size + 1) c)) (fuel : Nat) (ws : List Str) (hnc : NoChild t c ws) (w name : Str)
    (hs : traverseSlot t (fuel + 1) c ws w = .flagValue c name) :
    ∀ v, (∀ f ∈ flagsAt t (t.size + 1) c, f.name = name → Pflag.valueOk f v = true) →
      ∃ p', Pflag.parse (flagsAt t (t.size + 1) c) true (ws ++ [v]) = .ok p' ∧ p'.sets.getLast? = some (name, v) :=
  flag_value_lands h hi hn hnc hs fun _ _ => .inl rfl

/-- non-vacuity -/
example :
    let cs : TCmd := { name := "prog".toList, flags := [({ name := "name".toList, short := some 'n' }, false), ({ name := "verbose".toList, short := some 'v', kind := .bool }, false)] }
    Stay #[cs] 0 cs ∧ NoChild #[cs] 0 ["x".toList, "-vn".toList] ∧ NamesOk (flagsAt #[cs] 2 0) ∧
    traverseSlot #[cs] 3 0 ["x".toList, "-vn".toList] "val".toList = .flagValue 0 "name".toList := by
  repeat rw [String.toList_ofList]
  refine ⟨⟨rfl, by decide, by decide, rfl⟩, by unfold NoChild; decide, by unfold NamesOk; decide, by decide⟩

end Carapace.Props.C01

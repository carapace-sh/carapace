-- root of the library: everything the checks build
import Carapace.Props.C02
import Carapace.Props.C02Prefix
import Carapace.Props.C03
import Carapace.Props.C03Shells
import Carapace.Props.C03Zsh
import Carapace.Props.C04
import Carapace.Props.C05
import Carapace.Props.C06
import Carapace.Props.C08
import Carapace.Props.C08Effects
import Carapace.Props.C10
import Carapace.Props.C10Ranges
import Carapace.Props.C11
import Carapace.Props.C12
import Carapace.Props.C13
import Carapace.Props.C13Doc
import Carapace.Props.C17
import Carapace.Props.C18
import Carapace.Props.C18Traverse
import Carapace.Props.C18TraverseG
import Carapace.Props.C09
import Carapace.Props.C09Go
import Carapace.Props.C14
import Carapace.Props.C15
import Carapace.Props.C15Doc
import Carapace.Props.C19
import Carapace.Props.C20
import Carapace.Props.C16
import Carapace.Props.C16Exact
import Carapace.Props.C01
import Carapace.Props.C01Slots
import Carapace.Props.C01Flag
import Carapace.Props.C01Attached
import Carapace.Props.C01NonInter
import Carapace.Props.C01Descent
import Carapace.Props.C01Fork
import Carapace.Props.C01ForkFeatures
import Carapace.Props.C01ForkTraverse
import Carapace.Props.C01NonPosix
import Carapace.Props.C01ShortAttached
import Carapace.Props.C01Cobra
import Carapace.Props.C07
import Carapace.Props.C07Parser

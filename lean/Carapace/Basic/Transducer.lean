/-
  Shell readers are character transducers: a finite mode, a step per character that may
  fail (`none` = something other than literal text / quoting was met) and emits `Out`
  tokens.  `run_flatMap_inv` turns a per-character obligation ("the escape of `c`, read in a mode of `I`,
  yields the literal `c` and stays in `I`") into the statement for every string; the obligations are
  decided for the code points that readers and tables name and argued for all others (`codes_lift`; with the
  escape tables, `specialCodes_lift` in `Lemmas/Replacer.lean`).
-/
import Carapace.Basic.Str

namespace Carapace

inductive Out where
  | lit (c : Char)   -- a literal character of the current word
  | brk              -- the current word (if any) ends here
  | mark             -- a quote was seen: a word exists here even if it is empty
  deriving DecidableEq, Repr, Inhabited

structure Reader (M : Type) where
  step : M → Char → Option (M × List Out)

namespace Reader

variable {M : Type}

def run (r : Reader M) : M → Str → Option (M × List Out)
  | m, [] => some (m, [])
  | m, c :: s =>
    match r.step m c with
    | none => none
    | some (m', o) =>
      match run r m' s with
      | none => none
      | some (m'', o') => some (m'', o ++ o')

theorem run_nil (r : Reader M) (m : M) : r.run m [] = some (m, []) := rfl

theorem run_append (r : Reader M) (m : M) (a b : Str) :
    r.run m (a ++ b) =
      match r.run m a with
      | none => none
      | some (m', o) =>
        match r.run m' b with
        | none => none
        | some (m'', o') => some (m'', o ++ o') := by
  induction a generalizing m with
  | nil => cases h : r.run m b <;> simp [run, h]
  | cons c a ih =>
    simp only [List.cons_append, run, ih]
    cases r.step m c with
    | none => rfl
    | some p =>
      simp only
      cases r.run p.1 a with
      | none => rfl
      | some q =>
        simp only
        cases r.run q.1 b <;> simp

variable (r : Reader M) {m m' m'' : M} {a b : Str} {c : Char} {o o' : List Out}

theorem run_append_of (ha : r.run m a = some (m', o)) (hb : r.run m' b = some (m'', o')) :
    r.run m (a ++ b) = some (m'', o ++ o') := by
  rw [run_append, ha]; simp only; rw [hb]

theorem run_append_silent (ha : r.run m a = some (m', o)) (hb : r.run m' b = some (m'', [])) :
    r.run m (a ++ b) = some (m'', o) := by
  simpa using run_append_of r ha hb

theorem run_cons_of (hc : r.step m c = some (m', o)) (ha : r.run m' a = some (m'', o')) :
    r.run m (c :: a) = some (m'', o ++ o') := by
  simp [run, hc, ha]

theorem run_singleton (m : M) (c : Char) : r.run m [c] = r.step m c := by
  cases h : r.step m c <;> simp [run, h]

theorem run_cons_some (h : r.run m (c :: a) = some (m'', o)) :
    ∃ m' o₁ o₂, r.step m c = some (m', o₁) ∧ r.run m' a = some (m'', o₂) ∧ o = o₁ ++ o₂ := by
  cases hs : r.step m c with
  | none => simp [run, hs] at h
  | some p =>
    cases hr : r.run p.1 a with
    | none => simp [run, hs, hr] at h
    | some q =>
      simp only [run, hs, hr, Option.some.injEq, Prod.mk.injEq] at h
      exact ⟨p.1, p.2, q.2, rfl, by rw [hr, ← h.1], h.2.symm⟩

theorem run_flatMap_inv (I : M → Prop) (esc : Char → Str) (emit : Char → List Out) (v : Str)
    (h : ∀ c ∈ v, ∀ m, I m → ∃ m', I m' ∧ r.run m (esc c) = some (m', emit c)) :
    ∀ m, I m → ∃ m', I m' ∧ r.run m (v.flatMap esc) = some (m', v.flatMap emit) := by
  induction v with
  | nil => exact fun m hm => ⟨m, hm, rfl⟩
  | cons c v ih =>
    intro m hm
    obtain ⟨m₁, hm₁, h₁⟩ := h c (List.mem_cons_self ..) m hm
    obtain ⟨m₂, hm₂, h₂⟩ := ih (fun d hd => h d (List.mem_cons_of_mem _ hd)) m₁ hm₁
    exact ⟨m₂, hm₂, by simpa [List.flatMap_cons] using run_append_of r h₁ h₂⟩

theorem run_flatMap_emit (m : M) {esc : Char → Str} (emit : Char → List Out) (v : Str)
    (h : ∀ c ∈ v, r.run m (esc c) = some (m, emit c)) : r.run m (v.flatMap esc) = some (m, v.flatMap emit) := by
  obtain ⟨_, rfl, h'⟩ := run_flatMap_inv r (· = m) esc emit v (fun c hc _ hm => ⟨m, rfl, hm ▸ h c hc⟩) m rfl
  exact h'

theorem run_flatMap (m : M) {esc : Char → Str} (v : Str)
    (h : ∀ c ∈ v, r.run m (esc c) = some (m, [Out.lit c])) : r.run m (v.flatMap esc) = some (m, v.map Out.lit) := by
  simpa only [List.map_eq_flatMap] using run_flatMap_emit r m (fun c => [Out.lit c]) v h

theorem run_lits (m : M) (s : Str)
    (h : ∀ c ∈ s, r.step m c = some (m, [Out.lit c])) : r.run m s = some (m, s.map Out.lit) := by
  simpa using run_flatMap r m (esc := fun c => [c]) s fun c hc => (r.run_singleton m c).trans (h c hc)

end Reader

/-- words denoted by an output stream; `cur = none` means no word is in progress -/
def collect : List Out → Option Str → List Str
  | [], none => []
  | [], some w => [w]
  | Out.lit c :: r, cur => collect r (some (cur.getD [] ++ [c]))
  | Out.mark :: r, cur => collect r (some (cur.getD []))
  | Out.brk :: r, none => collect r none
  | Out.brk :: r, some w => w :: collect r none

theorem collect_lits (v : Str) (acc : Str) :
    collect (v.map Out.lit) (some acc) = [acc ++ v] := by
  induction v generalizing acc with
  | nil => simp [collect]
  | cons c v ih => simp [collect, ih, List.append_assoc]

theorem collect_lits_none (v : Str) (h : v ≠ []) :
    collect (v.map Out.lit) none = [v] := by
  cases v with
  | nil => exact absurd rfl h
  | cons c v => simp [collect, collect_lits]

/-- `readWords r start final text`: the words a shell obtains from `text`, or `none` -/
def readWords {M : Type} (r : Reader M) (start : M) (final : M → Bool) (text : Str) : Option (List Str) :=
  match r.run start text with
  | none => none
  | some (m, o) => if final m then some (collect o none) else none

section
variable {M : Type} {r : Reader M} {start : M} {final : M → Bool}

theorem readWords_of_run {m : M} {text : Str} {o : List Out}
    (h : r.run start text = some (m, o)) (hf : final m = true) :
    readWords r start final text = some (collect o none) := by
  simp [readWords, h, hf]

theorem readWords_lits {m : M} {text s : Str}
    (h : r.run start text = some (m, s.map Out.lit)) (hf : final m = true) (hne : s ≠ []) :
    readWords r start final text = some [s] := by
  rw [readWords_of_run h hf, collect_lits_none s hne]

/-- `a` opens the quote (mode `m`, output `o₀`), `b` is the body, read in `m`, `c` closes it without output; `ho`:
    opening and body collect to the one word `s` - for a body of literals `collect_lits s []`, once `collect` has
    run over `o₀` -/
theorem readWords_quoted {m m' : M} {a b c : Str} {o₀ o : List Out} {s : Str}
    (ha : r.run start a = some (m, o₀)) (hb : r.run m b = some (m, o))
    (hc : r.run m c = some (m', [])) (hf : final m' = true) (ho : collect (o₀ ++ o) none = [s]) :
    readWords r start final (a ++ b ++ c) = some [s] := by
  rw [List.append_assoc, readWords_of_run (r.run_append_of ha (r.run_append_silent hb hc)) hf, ho]

theorem readWords_flatMap (L : List M) (h0 : start ∈ L) (hfin : ∀ m ∈ L, final m = true)
    {esc : Char → Str} {s : Str} (hne : s ≠ [])
    (h : ∀ c ∈ s, ∀ m ∈ L, ∃ m' ∈ L, r.run m (esc c) = some (m', [Out.lit c])) :
    readWords r start final (s.flatMap esc) = some [s] := by
  obtain ⟨m, hm, hr⟩ := r.run_flatMap_inv (· ∈ L) esc (fun c => [Out.lit c]) s h start h0
  rw [← List.map_eq_flatMap] at hr
  exact readWords_lits hr (hfin m hm) hne

theorem readWords_bare (L : List M) (h0 : start ∈ L) (hfin : ∀ m ∈ L, final m = true)
    {s : Str} (hne : s ≠ [])
    (h : ∀ c ∈ s, ∀ m ∈ L, ∃ m' ∈ L, r.step m c = some (m', [Out.lit c])) :
    readWords r start final s = some [s] := by
  simpa using readWords_flatMap L h0 hfin (esc := fun c => [c]) hne
    (fun c hc m hm => (h c hc m hm).imp fun _ h' => ⟨h'.1, (r.run_singleton ..).trans h'.2⟩)

end

def asciiAll (p : Char → Bool) : Bool := (List.range 128).all (fun n => p (Char.ofNat n))

theorem asciiAll_spec {p : Char → Bool} (h : asciiAll p = true) (c : Char) (hc : c.toNat < 128) :
    p c = true := by
  unfold asciiAll at h
  rw [List.all_eq_true] at h
  have := h c.toNat (List.mem_range.mpr hc)
  simpa [Char.ofNat_toNat] using this

/-- every code point a shell reader names in a mode in which it meets an unescaped character (bare, inside quotes;
    `Spec/Reader`: `Posix.clsNat`, the `inSet` lists, xonsh's `r`); what `unescape` / `pyEscape` name is met only
    behind a table key.  A reader's `_plain` lemma fails if one is missing -/
def specialCodes : List Nat := [0x09, 0x0A, 0x0D, 0x20, 0x22, 0x23, 0x24, 0x26, 0x27, 0x28, 0x29, 0x2A, 0x2C, 0x3B, 0x3C,
  0x3D, 0x3E, 0x3F, 0x40, 0x5B, 0x5C, 0x5D, 0x60, 0x72, 0x7B, 0x7C, 0x7D, 0x7E]

theorem ne_of_not_special {c d : Char} (h : c.toNat ∉ specialCodes) (hd : d.toNat ∈ specialCodes) : c ≠ d :=
  fun e => h (e ▸ hd)

theorem codes_lift {P : Char → Prop} (L : List Nat) (h : ∀ n ∈ L, P (Char.ofNat n))
    (hn : ∀ c : Char, c.toNat ∉ L → P c) (c : Char) : P c :=
  if hc : c.toNat ∈ L then Char.ofNat_toNat c ▸ h _ hc else hn c hc

end Carapace

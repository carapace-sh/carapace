/-
  C01 in a non-POSIX flag set (a shorthand that is a word): `-word<d>value` as carapace's
  `lookupNonPosixShorthandArg` and the fork's `parseSingleShortArg` (non-POSIX branch) read it.
-/
import Carapace.Props.C01ForkFeatures
import Carapace.Lemmas.Sort

namespace Carapace.Props.C01Fork
open Carapace.Model Carapace.Spec.PflagG

/-- no delimiter occurs in a shorthand key (nor, for a flag of mode 2, in its name), and none is `-`: under this
    `findShortFlag`, which walks a map, has one answer (Spec/PflagG.lean, `findShortWordG`) -/
def ShortsDelimFree (fs : PFlagsG) : Prop :=
  ∀ f ∈ fs, ∀ g ∈ fs, g.delim ≠ '-' ∧ g.delim ∉ f.shortW ∧ (f.mode = 2 → g.delim ∉ f.name)

/-- the fork's `AddFlag` panics on a shorthand key that is registered already -/
def KeysDistinct (fs : PFlagsG) : Prop :=
  ∀ f ∈ fs, ∀ g ∈ fs, (g.shortW = f.shortW → g = f) ∧ (g.mode = 2 → g.shortW ≠ [] → g.name = f.shortW → g = f)

theorem isPosixG_toDefG (fs : PFlagsG) : isPosixG (fs.map PFlagG.toDefG) = isPosixP fs :=
  List.all_map

theorem mem_shortKeys (g : PFlagG) (k : Str) :
    k ∈ g.shortKeys ↔ g.shortW ≠ [] ∧ (k = g.shortW ∨ (g.mode = 2 ∧ k = g.name)) := by
  unfold PFlagG.shortKeys
  split
  · simp_all
  · split <;> simp_all

/-- **C01, non-POSIX flag set, attached value.** carapace resolves `-word<d>value` to the flag whose shorthand is
    `word`, with prefix `-word<d>` (that flag's completion is offered, prefixed), and the parser assigns `value`
    to the same flag and takes no further word.  `hlen` is the parser's own condition; what it excludes is the
    listed finding `nonposix_short_empty_attached`, decided at the end. -/
theorem C01_nonposix_attached (fs : PFlagsG) (hnp : isPosixP fs = false) (hd : ShortsDelimFree fs) (hk : KeysDistinct fs)
    (f : PFlagG) (hf : f ∈ fs) (c : Char) (w : Str) (hsw : f.shortW = c :: w) (hc : c ≠ '-')
    (v : Str) (hv : valueOkG f v = true) (hlen : (f.shortW ++ f.delim :: v).length > 2) (rest : List Str) (wl : Bool) :
    lookupArgG (fs.map PFlagG.toDefG) ('-' :: (f.shortW ++ f.delim :: v)) =
        some ⟨f.toDefG, '-' :: f.shortW ++ [f.delim], [v]⟩ ∧
    parseNonPosixShortG fs wl (f.shortW ++ f.delim :: v) rest = .ok ([(f.name, v)], 0) := by
  have hD : ∀ g ∈ fs, g.delim ≠ '-' := fun g hg => (hd f hf g hg).1
  have hW : ∀ a ∈ fs, ∀ g ∈ fs, g.delim ∉ a.shortW := fun a ha g hg => (hd a ha g hg).2.1
  have hN : ∀ a ∈ fs, ∀ g ∈ fs, a.mode = 2 → g.delim ∉ a.name := fun a ha g hg => (hd a ha g hg).2.2
  have hkW : ∀ g ∈ fs, g.shortW = f.shortW → g = f := fun g hg => (hk f hf g hg).1
  have hkN : ∀ g ∈ fs, g.mode = 2 → g.shortW ≠ [] → g.name = f.shortW → g = f := fun g hg => (hk f hf g hg).2
  have hcut := Str.cutChar_append f.delim f.shortW v (hW f hf f hf)
  have hdash : ∀ g ∈ fs, g.delim ∉ '-' :: f.shortW := fun g hg => by simp [hD g hg, hW f hf g hg]
  have hcut' : Str.cutChar f.delim ('-' :: (f.shortW ++ f.delim :: v)) = ('-' :: f.shortW, some v) :=
    Str.cutChar_append f.delim ('-' :: f.shortW) v (hdash f hf)
  constructor
  · -- carapace's side (`hc`: the word does not start with `--`)
    have hword : lookupArgG (fs.map PFlagG.toDefG) ('-' :: (f.shortW ++ f.delim :: v)) =
        lookupNonPosixG (fs.map PFlagG.toDefG) ('-' :: (f.shortW ++ f.delim :: v)) := by
      rw [hsw, List.cons_append, lookupArgG_short hc, isPosixG_toDefG, hnp]
      rfl
    rw [hword, lookupNonPosixG]
    rw [find_unique _ _ f.toDefG ((mem_sortBy ..).mpr (List.mem_map_of_mem hf))]
    -- the value returned, and that `f` passes the test
    · simp [PFlagG.toDefG, hcut']
    · simp [PFlagG.toDefG, hcut']
    · intro y hy hp
      obtain ⟨g, hg, rfl⟩ := List.mem_map.mp ((mem_sortBy ..).mp hy)
      have hkey : '-' :: g.shortW = '-' :: f.shortW :=
        cut_claims v (hdash f hf) (hdash g hg) (by simp [hD f hf, hW g hg f hf]) (by simpa [PFlagG.toDefG] using hp)
      rw [hkW g hg (List.cons.inj hkey).2]
  · -- the parser's side
    unfold parseNonPosixShortG findShortWordG
    rw [find_unique _ fs f hf]
    · have hel : (f.shortW ++ f.delim :: v).elem f.delim = true := by simp
      simp only [hlen, decide_true, hel, Bool.and_self, if_true, hcut, Option.getD_some, hv]
    · simp only [List.any_eq_true]
      exact ⟨f.shortW, (mem_shortKeys f _).mpr ⟨by simp [hsw], .inl rfl⟩, by simp [hcut]⟩
    · intro g hg hp
      simp only [List.any_eq_true, beq_iff_eq] at hp
      obtain ⟨k, hkm, hkc⟩ := hp
      -- either key of `g` is free of `f`'s delimiter
      obtain ⟨hne, rfl | ⟨hm, rfl⟩⟩ := (mem_shortKeys g k).mp hkm
      · exact hkW g hg (cut_claims v (hW f hf f hf) (hW f hf g hg) (hW g hg f hf) hkc)
      · exact hkN g hg hm hne (cut_claims v (hW f hf f hf) (hW f hf g hg) (hN g hg f hf hm) hkc)

/-! the premises can be met; the excluded case is the listed finding -/

def npDelim : PFlagG := { name := "delim".toList, shortW := "delim".toList, mode := 1, delim := ':' }
def npOpt : PFlagG := { name := "opt".toList, short := some 'o', shortW := "o".toList }

example : lookupArgG ([npDelim, npOpt].map PFlagG.toDefG) "-delim:v".toList =
    some ⟨npDelim.toDefG, "-delim:".toList, ["v".toList]⟩ := by
  unfold npDelim npOpt
  repeat rw [String.toList_ofList]
  rfl
example : parseG [npDelim, npOpt] true ["-delim:v".toList, "x".toList] =
    .ok { args := ["x".toList], sets := [("delim".toList, "v".toList)] } := by
  unfold npDelim npOpt
  repeat rw [String.toList_ofList]
  rfl
/-- `-o= v`: the lookup takes the empty value for attached, the parser gives `v` to the flag -/
theorem nonposix_short_empty_attached_counterexample :
    (lookupArgG ([npDelim, npOpt].map PFlagG.toDefG) "-o=".toList).map (·.args) = some [[]] ∧
    parseG [npDelim, npOpt] true ["-o=".toList, "v".toList] =
      .ok { args := [], sets := [("opt".toList, "v".toList)] } := by
  unfold npDelim npOpt
  repeat rw [String.toList_ofList]
  exact ⟨rfl, rfl⟩

end Carapace.Props.C01Fork

/-
  C03 for zsh, all five quoting states: the `_describe` escaping is undone by the consumer (`zshUndescribe`,
  Spec/Decode), and what is left reads back as the sanitised value.  The reader is the hard-rule one the oracle
  uses, that of bash (a leading `=` is graded soft, see DESIGN.md appendix B).
-/
import Carapace.Spec.Decode
import Carapace.Spec.FmtOracle
import Carapace.Props.C03

namespace Carapace.Props.C03
open Carapace.Model Carapace.Spec

theorem zshUndescribe_cons_ne (c : Char) (r : Str) (h : c ≠ '\\') :
    zshUndescribe (c :: r) = c :: zshUndescribe r := by
  simp [zshUndescribe, h]

theorem zshUndescribe_describe (x y : Str) :
    zshUndescribe (zshDescribe x ++ y) = x ++ zshUndescribe y := by
  induction x with
  | nil => rfl
  | cons c x ih =>
    rw [zshDescribe, Replacer.applyChars_cons, ← zshDescribe, List.append_assoc]
    -- the two rows of the table (`\` written `\\`, `:` written `\:`) are undone by evaluation
    by_cases h1 : c = '\\'
    · subst h1; exact congrArg ('\\' :: ·) ih
    by_cases h2 : c = ':'
    · subst h2; exact congrArg (':' :: ·) ih
    have : Replacer.escChar Gen.zsh_describeReplacer c = [c] := by
      simp [Replacer.escChar, Replacer.lookup, Gen.zsh_describeReplacer, Ne.symm h1, Ne.symm h2]
    rw [this, List.singleton_append, zshUndescribe_cons_ne c _ h1, ih, List.cons_append]

theorem zshUndescribe_describe_nil (x : Str) : zshUndescribe (zshDescribe x) = x := by
  simpa [zshUndescribe] using zshUndescribe_describe x []

/-- inside single quotes a quote is written `'\''` (close, escaped quote, open again) and read as the quote and
    the mark of the re-opened quote -/
def sqEmit (c : Char) : List Out := if c = '\'' then [Out.lit '\'', Out.mark] else [Out.lit c]

theorem collect_sqEmit (v : Str) (acc : Str) : collect (v.flatMap sqEmit) (some acc) = [acc ++ v] := by
  induction v generalizing acc with
  | nil => simp [collect]
  | cons c v ih =>
    by_cases hq : c = '\'' <;> simp [List.flatMap_cons, sqEmit, hq, collect, ih, List.append_assoc]

theorem zsh_tables : ∀ c : Char,
    (Replacer.lookup Gen.zsh_sanitizer c = none → ∀ m ∈ [Posix.Mode.start, .mid],
      B.run m (Replacer.escChar Gen.zsh_defaultReplacer c) = some (.mid, [Out.lit c])) ∧
    B.run .sq (Replacer.escChar Gen.zsh_quotingReplacer c) = some (.sq, sqEmit c) :=
  specialCodes_lift [Gen.zsh_defaultReplacer, Gen.zsh_quotingReplacer] (by decide +kernel) fun c h hk => by
    have hq : c ≠ '\'' := ne_of_not_special h (by decide)
    simp [hk, Reader.run_singleton, Posix.reader, Posix.step, Posix.stepUnq, sqEmit, hq, cls_plain h]

theorem run_flatMap_emit {M : Type} (r : Reader M) (m : M) (esc : Char → Str) (emit : Char → List Out) (P : Char → Prop)
    (h : ∀ c, P c → r.run m (esc c) = some (m, emit c)) :
    ∀ v : Str, (∀ c ∈ v, P c) → r.run m (v.flatMap esc) = some (m, v.flatMap emit) :=
  fun v hv => r.run_flatMap_emit m emit v fun c hc => h c (hv c hc)

theorem zsh_sq_reads (s : Str) :
    Posix.readBack Posix.bash (['\''] ++ Replacer.applyChars Gen.zsh_quotingReplacer s ++ ['\'']) = some [s] := by
  have h1 : B.run .start ['\''] = some (.sq, [Out.mark]) := by decide
  have h3 : B.run .sq ['\''] = some (.mid, []) := by decide
  exact readWords_quoted h1 (B.run_flatMap_emit .sq sqEmit s fun c _ => (zsh_tables c).2) h3 rfl
    (collect_sqEmit s [])

/-- **C03 (zsh, default state).** No hypothesis on the characters of the value: whatever the sanitizer leaves is
    escaped with a backslash; a leading `~/` or named directory keeps its tilde. -/
theorem C03_zsh_dflt (env : Env) (v : Str) (hne : san Gen.zsh_sanitizer v ≠ []) :
    Posix.readBack Posix.bash (zshUndescribe (zshInsert env .dflt v)) = some [san Gen.zsh_sanitizer v] := by
  have hsan : ∀ c ∈ san Gen.zsh_sanitizer v, Replacer.lookup Gen.zsh_sanitizer c = none :=
    Replacer.lookup_of_mem_applyChars_sanitizer Gen.zsh_sanitizer_shape
  simp only [zshInsert, zshUndescribe_describe_nil]
  generalize san Gen.zsh_sanitizer v = s at hne hsan
  unfold zshQuoteValue
  split
  · -- a leading `~/` or named directory
    rename_i hcond
    obtain ⟨t, rfl⟩ : ∃ t, s = '~' :: t := by
      rcases (Bool.or_eq_true _ _).mp hcond with h | h
      · exact Str.hasPrefix_cons h
      · simp only [zshNamedMatches, Bool.and_eq_true] at h
        exact Str.hasPrefix_cons h.1.1.1
    rw [show Str.trimPrefix ('~' :: t) ['~'] = t by simp [Str.trimPrefix, Str.hasPrefix]]
    exact posix_tilde_reads fun c hc =>
      (zsh_tables c).1 (hsan c (List.mem_cons_of_mem _ hc)) .mid (by simp)
  · exact readWords_flatMap [.start, .mid] (by simp) (by decide) hne fun c hc m hm =>
      ⟨.mid, by simp, (zsh_tables c).1 (hsan c hc) m hm⟩

/-- **C03 (zsh, inside `"`).** The typed word opened a double quote; the inserted text closes it
    (QUOTING_ESCAPING) or the typed closing quote follows (FULL_QUOTING_ESCAPING): the whole reads back as the
    sanitised value, empty values included. -/
theorem C03_zsh_dq (env : Env) (v : Str) (full : Bool) :
    let st := if full then ZshState.fullQuotingEscaping else ZshState.quotingEscaping
    Posix.readBack Posix.bash (zshOpen st ++ zshUndescribe (zshInsert env st v) ++ zshClose st) =
      some [san Gen.zsh_sanitizer v] := by
  cases full with
  | true =>
    simp only [if_true, zshOpen, zshClose, zshInsert, zshUndescribe_describe_nil,
      Gen.zsh_quotingEscapingReplacer_eq]
    exact posix_dq_reads _
  | false =>
    simp only [Bool.false_eq_true, if_false, zshOpen, zshClose, zshInsert, zshUndescribe_describe,
      Gen.zsh_quotingEscapingReplacer_eq, List.append_nil, ← List.append_assoc]
    exact posix_dq_reads _

/-- **C03 (zsh, inside `'`).** The typed word opened a single quote; the inserted text closes it (QUOTING) or the
    typed closing quote follows (FULL_QUOTING): the whole reads back as the sanitised value, quotes inside it
    and empty values included. -/
theorem C03_zsh_sq (env : Env) (v : Str) (full : Bool) :
    let st := if full then ZshState.fullQuoting else ZshState.quoting
    Posix.readBack Posix.bash (zshOpen st ++ zshUndescribe (zshInsert env st v) ++ zshClose st) =
      some [san Gen.zsh_sanitizer v] := by
  cases full with
  | true =>
    simp only [if_true, zshOpen, zshClose, zshInsert, zshUndescribe_describe_nil]
    exact zsh_sq_reads _
  | false =>
    simp only [Bool.false_eq_true, if_false, zshOpen, zshClose, zshInsert, zshUndescribe_describe, List.append_nil,
      ← List.append_assoc]
    exact zsh_sq_reads _

example : san Gen.zsh_sanitizer "~/my dir/it's $x: #1".toList ≠ [] := by
  rw [String.toList_ofList]
  decide
example : Posix.readBack Posix.bash
    (zshOpen .quoting ++ zshUndescribe (zshInsert {} .quoting "it's".toList) ++ zshClose .quoting) = some ["it's".toList] := by
  decide

end Carapace.Props.C03

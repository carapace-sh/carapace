/-
  On trees without fork features the general traverse model picks the slot the POSIX model picks
  (`traverseSlotG_posix`): so a theorem about `traverseSlot` is one about the model the driver compares with the
  code on every case.
-/
import Carapace.Props.C01Fork
import Carapace.Model.TraverseG
import Carapace.Props.C01Flag

namespace Carapace.Props.C01Fork
open Carapace.Model Carapace.Spec Carapace.Spec.Pflag Carapace.Spec.PflagG

def embedCmd (c : TCmd) : TCmdG :=
  { name := c.name, aliases := c.aliases, parent := c.parent, interspersed := c.interspersed,
    noFlagParse := c.noFlagParse, whitelist := false, flags := c.flags.map (fun p => (embedP p.1, p.2)) }

def embedTree (t : TTree) : TTreeG := t.map embedCmd

theorem embedCmd_name (c : TCmd) : (embedCmd c).name = c.name := rfl
theorem embedCmd_interspersed (c : TCmd) : (embedCmd c).interspersed = c.interspersed := rfl
theorem embedCmd_noFlagParse (c : TCmd) : (embedCmd c).noFlagParse = c.noFlagParse := rfl
theorem embedCmd_whitelist (c : TCmd) : (embedCmd c).whitelist = false := rfl

theorem getElem_embedTree (t : TTree) (k : Nat) : (embedTree t)[k]? = (t[k]?).map embedCmd := by
  simp [embedTree]

theorem size_embedTree (t : TTree) : (embedTree t).size = t.size := by
  simp [embedTree]

theorem toDefG_embedP (f : PFlag) : (embedP f).toDefG = embed f.toDef := rfl

theorem map_toDefG_embedP (l : PFlags) : (l.map embedP).map PFlagG.toDefG = (l.map PFlag.toDef).map embed := by
  simp [toDefG_embedP]

theorem inherit_embed (t : TTree) (fuel : Nat) (p : Option Nat) (acc : PFlags) :
    flagsAtG.inherit (embedTree t) fuel p (acc.map embedP) = (flagsAt.inherit t fuel p acc).map embedP := by
  fun_induction flagsAt.inherit t fuel p acc with
  | case4 acc f q qs hq add ih =>
    -- filtering the inherited flags commutes with the embedding
    rw [← ih]
    simp [flagsAtG.inherit, getElem_embedTree, hq, embedCmd, add, List.filter_map, Function.comp_def, embedP]
  | _ => simp [flagsAtG.inherit, getElem_embedTree, *]

theorem flagsAtG_embed (t : TTree) (fuel c : Nat) :
    flagsAtG (embedTree t) fuel c = (flagsAt t fuel c).map embedP := by
  cases fuel with
  | zero => rfl
  | succ f =>
    simp only [flagsAtG, flagsAt, getElem_embedTree]
    cases t[c]? with
    | none => rfl
    | some cs => simpa [embedCmd, Function.comp_def] using inherit_embed t f cs.parent (cs.flags.map (·.1))

theorem childNamedG_embed (t : TTree) (c : Nat) (w : Str) : childNamedG (embedTree t) c w = childNamed t c w := by
  unfold childNamedG childNamed
  rw [size_embedTree]
  congr 2
  funext k
  rw [getElem_embedTree]
  cases t[k]? <;> rfl

/-- the general loop state of a POSIX one: a flag whose argument was attached is forgotten -/
def forget (s : LoopState) : LoopStateG :=
  { inArgs := s.inArgs, nPos := s.nPos,
    inFlag := (s.inFlag.map embedFound).bind (fun fd => if fd.args.isEmpty then some fd else none) }

def forgetClass : WordClass → WordClassG
  | .next s => .next (forget s)
  | .dash => .dash
  | .child k => .child k

theorem classifyG_forget (t : TTree) (c : Nat) (cs : TCmd) (fs : FlagSet) (arg : Str) (s : LoopState) :
    classifyG (embedTree t) c (embedCmd cs) (fs.map embed) arg (forget s) = forgetClass (classify t c cs fs arg s) := by
  unfold classifyG classify
  extract_lets noFlagG noFlag
  have htail : noFlagG = forgetClass noFlag := by
    simp only [noFlagG, noFlag, forget, embedCmd_noFlagParse, embedCmd_interspersed, lookupArgG_posix,
      childNamedG_embed]
    cases arg == "--".toList
    · cases !cs.noFlagParse && Str.hasPrefix arg ['-'] && (cs.interspersed || s.nPos == 0)
      · cases childNamed t c arg <;> rfl
      · rfl
    · rfl
  clear_value noFlagG noFlag
  subst htail
  rcases s with ⟨inArgs, nPos, _ | ⟨f, pre, _ | ⟨a, as⟩⟩⟩
  · rfl
  · -- the same flag is pending on both sides
    have hc : consumesG ⟨embed f, pre, []⟩ arg = consumes ⟨f, pre, []⟩ := consumesG_posix ⟨f, pre, []⟩ arg
    simp only [forget, embedFound, Option.map_some, Option.bind_some, List.isEmpty_nil, if_true, hc]
    cases consumes ⟨f, pre, []⟩
    · rfl
    · -- a flag that has the word among its arguments does not wait, on either side
      simp [forget, forgetClass, embed, consumes, consumesG]
  · -- forgotten on the general side, not asked on the POSIX side
    simp [forget, embedFound, consumes]

/-- the two loop states agree: same words, same count, and the same pending flag as far as waiting for
    words goes (the general model forgets a flag whose argument was attached, the POSIX model keeps it
    without ever asking it again) -/
structure Rel (sg : LoopStateG) (s : LoopState) : Prop where
  inArgs : sg.inArgs = s.inArgs
  nPos : sg.nPos = s.nPos
  flag : (∃ fd, s.inFlag = some fd ∧ fd.args = [] ∧ sg.inFlag = some (embedFound fd)) ∨
         (sg.inFlag = none ∧ ∀ fd, s.inFlag = some fd → consumes fd = false)

theorem rel_forget (s : LoopState) : Rel (forget s) s := by
  refine ⟨rfl, rfl, ?_⟩
  rcases s with ⟨inArgs, nPos, _ | ⟨f, pre, _ | ⟨a, as⟩⟩⟩
  · exact .inr ⟨rfl, by simp⟩
  · exact .inl ⟨_, rfl, rfl, rfl⟩
  · exact .inr ⟨rfl, by simp [consumes]⟩

theorem classify_dash_nonconsuming (t : TTree) (c : Nat) (cs : TCmd) (fs : FlagSet) (arg : Str) (s : LoopState)
    (h : classify t c cs fs arg s = .dash) : ∀ fd, s.inFlag = some fd → consumes fd = false := by
  intro fd hfd
  cases hc : consumes fd with
  | false => rfl
  | true => simp [classify, hfd, hc] at h

/-- the loops end the same way -/
inductive RelOut : LoopOutG → LoopOut → Prop where
  | done {sg s} (b : Bool) : Rel sg s → RelOut (.done sg b) (.done s b)
  | descend (k : Nat) (rest inArgs : List Str) : RelOut (.descend k rest inArgs) (.descend k rest inArgs)

theorem loop_rel (t : TTree) (c : Nat) (cs : TCmd) (fs : FlagSet) (args : List Str) (s : LoopState) :
    RelOut (loopG (embedTree t) c (embedCmd cs) (fs.map embed) args (forget s)) (loop t c cs fs args s) := by
  induction args generalizing s with
  | nil => exact .done false (rel_forget s)
  | cons arg rest ih =>
    unfold loopG loop
    rw [classifyG_forget]
    cases hy : classify t c cs fs arg s with
    | next s' => exact ih s'
    | dash =>
      -- the one step that is no equation: the general model drops the pending flag here, the POSIX model keeps it
      exact .done true ⟨rfl, rfl, .inr ⟨rfl, classify_dash_nonconsuming t c cs fs arg s hy⟩⟩
    | child k => exact .descend k rest s.inArgs

theorem seriesFix_embed (fs : FlagSet) (flagOk : Bool) (inArgs : List Str) (value : Str) :
    traverseSlotG.seriesFix (fs.map embed) flagOk inArgs value = traverseSlot.seriesFix fs flagOk inArgs value := by
  simp only [traverseSlotG.seriesFix, traverseSlot.seriesFix, isPosixG_embed, Bool.and_true, lookupArgG_posix]
  cases lookupArg fs value <;> rfl

theorem flagOrPositional_embed (cs : TCmd) (fs : FlagSet) (c : Nat) (flagOk : Bool) (p : Parsed) (value : Str) :
    traverseSlotG.flagOrPositional (embedCmd cs) (fs.map embed) c flagOk p value =
      traverseSlot.flagOrPositional cs fs c flagOk p value := by
  simp only [traverseSlotG.flagOrPositional, traverseSlot.flagOrPositional, isPosixG_embed, Bool.true_and,
    lookupArgG_posix, embedCmd_noFlagParse]
  cases lookupArg fs value <;> rfl

/-- what `parseG_posix` asks, of the flag set `traverseSlotG` parses with at any command -/
def TreeNoEqShort (t : TTree) : Prop := ∀ c, NoEqShort (flagsAt t (t.size + 1) c)

theorem traverseSlotG_posix (t : TTree) (h : TreeNoEqShort t) (fuel c : Nat) (args : List Str) (value : Str) :
    traverseSlotG (embedTree t) fuel c args value = traverseSlot t fuel c args value := by
  induction fuel generalizing c args with
  | zero => rfl
  | succ fuel ih =>
    rw [traverseSlotG, traverseSlot, getElem_embedTree]
    cases t[c]? with
    | none => rfl
    | some cs =>
      simp only [Option.map_some, embedCmd_name, embedCmd_interspersed, embedCmd_noFlagParse, embedCmd_whitelist,
        size_embedTree, flagsAtG_embed, map_toDefG_embedP, parseG_posix _ (h c), seriesFix_embed,
        flagOrPositional_embed, ih]
      have hl := loop_rel t c cs ((flagsAt t (t.size + 1) c).map PFlag.toDef) args {}
      rw [show forget {} = {} from rfl] at hl
      generalize loopG (embedTree t) c (embedCmd cs) (((flagsAt t (t.size + 1) c).map PFlag.toDef).map embed) args {} = x at hl
      generalize loop t c cs ((flagsAt t (t.size + 1) c).map PFlag.toDef) args {} = y at hl
      cases hl with
      | descend k rest inArgs => rfl
      | @done sg s b hrel =>
        simp only [hrel.nPos, hrel.inArgs]
        rcases hrel.flag with ⟨fd, hs, ha, hg⟩ | ⟨hg, hnc⟩
        · simp only [hs, hg, consumesG_posix]
          rfl
        · rw [hg]
          cases hs : s.inFlag with
          | none => rfl
          | some fd => simp only [hnc fd hs, Bool.and_false, Bool.false_eq_true, if_false]; rfl

theorem parseG_flagsAtG (t : TTree) (h : TreeNoEqShort t) (c : Nat) (inter : Bool) (args : List Str) :
    parseG (flagsAtG (embedTree t) ((embedTree t).size + 1) c) inter args = parse (flagsAt t (t.size + 1) c) inter args := by
  rw [size_embedTree, flagsAtG_embed, parseG_posix _ (h c)]

/-! `traverseSlotG` and `parseG` are what the driver evaluates on every generated case: the three slot theorems hold
of them as they stand. -/

open Carapace.Props.C01

/-- **C01, positional slot, over the general model and specification.** -/
theorem C01_positional_lands_general {t : TTree} {c : Nat} {cs : TCmd} (hne : TreeNoEqShort t) (h : Stay t c cs) (fuel : Nat)
    (ws : List Str) (hnc : NoChild t c ws) (w : Str) (hw : Str.hasPrefix w ['-'] = false) (k : Nat)
    (hs : traverseSlotG (embedTree t) (fuel + 1) c ws w = .positional c k) :
    ∀ w', Pflag.flagLike w' = false →
      ∃ p', parseG (flagsAtG (embedTree t) ((embedTree t).size + 1) c) cs.interspersed (ws ++ [w']) = .ok p' ∧
            p'.args[k]? = some w' ∧ p'.lenAtDash = none := by
  rw [traverseSlotG_posix t hne] at hs
  simpa only [parseG_flagsAtG t hne] using C01_positional_lands h fuel ws hnc w hw k hs

/-- **C01, slot after `--`, over the general model and specification.** -/
theorem C01_dash_lands_general {t : TTree} {c : Nat} {cs : TCmd} (hne : TreeNoEqShort t) (h : Stay t c cs) (fuel : Nat)
    (ws : List Str) (hnc : NoChild t c ws) (w : Str) (hw : Str.hasPrefix w ['-'] = false) (k : Nat)
    (hs : traverseSlotG (embedTree t) (fuel + 1) c ws w = .dash c k)
    (hnp : pendingFlag t c cs ws = false) :
    ∀ w', ∃ p' n, parseG (flagsAtG (embedTree t) ((embedTree t).size + 1) c) cs.interspersed (ws ++ [w']) = .ok p' ∧
            p'.lenAtDash = some n ∧ p'.args[n + k]? = some w' := by
  rw [traverseSlotG_posix t hne] at hs
  simpa only [parseG_flagsAtG t hne] using C01_dash_lands h fuel ws hnc w hw k hs hnp

/-- **C01, flag value slot, over the general model and specification.** -/
theorem C01_flag_value_lands_general {t : TTree} {c : Nat} {cs : TCmd} (hne : TreeNoEqShort t) (h : Stay t c cs)
    (hi : cs.interspersed = true) (hn : NamesOk (flagsAt t (t.size + 1) c)) (fuel : Nat) (ws : List Str)
    (hnc : NoChild t c ws) (w name : Str)
    (hs : traverseSlotG (embedTree t) (fuel + 1) c ws w = .flagValue c name) :
    ∀ v, (∀ f ∈ flagsAt t (t.size + 1) c, f.name = name → Pflag.valueOk f v = true) →
      ∃ p', parseG (flagsAtG (embedTree t) ((embedTree t).size + 1) c) true (ws ++ [v]) = .ok p' ∧
            p'.sets.getLast? = some (name, v) := by
  rw [traverseSlotG_posix t hne] at hs
  simpa only [parseG_flagsAtG t hne] using C01_flag_value_lands h hi hn fuel ws hnc w name hs

/-- the hypotheses can be met: a one-command program with a string flag `--name` / `-n` -/
def exTree : TTree := #[{ name := "root".toList, flags := [({ name := "name".toList, short := some 'n' }, false)] }]

example : TreeNoEqShort exTree := by
  intro c f hf
  cases c <;> simp [flagsAt, flagsAt.inherit, exTree] at hf
  subst hf
  simp

end Carapace.Props.C01Fork

/-
  C03 for powershell, xonsh, nushell, tcsh (and the formats that hand the value to the shell as data).  Where
  carapace as modelled violates the property the excluded characters are hypotheses, each with a decided
  counterexample: `'` in powershell, `'` and a raw literal left open by a backslash in xonsh, braces in tcsh.
  `XoPlain.cr`, `.nl`, `.tab` have neither a counterexample nor a sanitised corollary: the xonsh sanitizer
  deletes the three characters, but its row `'` → `\'` makes it no `isSanitizer` table.
-/
import Carapace.Model.Shells
import Carapace.Spec.Reader.Others
import Carapace.Lemmas.GenTables
import Carapace.Lemmas.Sort
import Carapace.Lemmas.Str

namespace Carapace.Props.C03
open Carapace.Model Carapace.Spec

theorem inSet_of_not_special {c : Char} (h : c.toNat ∉ specialCodes) (xs : List Nat) (hs : xs ⊆ specialCodes) :
    inSet c xs = false := by
  simp only [inSet, Bool.and_eq_false_imp, decide_eq_true_eq, List.elem_eq_mem, decide_eq_false_iff_not]
  exact fun _ hm => h (hs hm)

abbrev PS : Reader Powershell.Mode := Powershell.reader false

theorem ps_stepBare_plain {c : Char} (h : c.toNat ∉ specialCodes) (strict atStart : Bool) :
    Powershell.stepBare strict atStart c = some (.mid, [Out.lit c]) := by
  simp (disch := decide) [Powershell.stepBare, inSet_of_not_special h]

theorem ps_bare_table : ∀ c : Char, c.toNat ∉ Gen.powershell_ActionRawValues_containsAny.map Char.toNat → c ≠ '\'' →
    Replacer.lookup Gen.powershell_sanitizer c = none →
    ∀ m ∈ [Powershell.Mode.start, .mid], PS.step m c = some (.mid, [Out.lit c]) :=
  codes_lift specialCodes (by decide +kernel) fun c h _ _ _ m hm => by
    simp only [List.mem_cons, List.not_mem_nil, or_false] at hm
    rcases hm with rfl | rfl <;> simp only [Powershell.reader, Powershell.step, ps_stepBare_plain h]

theorem ps_sq_step {c : Char} (h : c ≠ '\'') : PS.step .sq c = some (.sq, [Out.lit c]) := by
  simp [Powershell.reader, Powershell.step, h]

theorem ps_reads (s : Str) (hq : '\'' ∉ s) (hs : ∀ c ∈ s, Replacer.lookup Gen.powershell_sanitizer c = none)
    (hne : s ≠ []) : Powershell.readBack false (powershellQuote s) = some [s] := by
  unfold powershellQuote
  split
  · have h1 : PS.run .start ['\''] = some (.sq, [Out.mark]) := by decide
    have h2 : PS.run .sq s = some (.sq, s.map Out.lit) :=
      PS.run_lits .sq s fun c hc => ps_sq_step (ne_of_mem_of_not_mem hc hq)
    have h3 : PS.run .sq ['\''] = some (.sqq, []) := by decide
    exact readWords_quoted h1 h2 h3 rfl (collect_lits s [])
  · rename_i hc
    exact readWords_bare [.start, .mid] (by simp) (by decide) hne fun c hcs m hm =>
      ⟨.mid, by simp, ps_bare_table c (Str.codes_not_mem_of_not_containsAny hc c hcs) (ne_of_mem_of_not_mem hcs hq)
        (hs c hcs) m hm⟩

/-- **C03 (powershell).** For a sanitised value without `'` the inserted text reads back as exactly that
    value.  The sanitizer deletes CR (fix b92cb75), so the quoting step never sees one. -/
theorem C03_powershell_sanitised (v : Str) (hq : '\'' ∉ san Gen.powershell_sanitizer v)
    (hne : san Gen.powershell_sanitizer v ≠ []) :
    Powershell.readBack false (powershellQuote (san Gen.powershell_sanitizer v)) = some [san Gen.powershell_sanitizer v] :=
  ps_reads _ hq (Replacer.lookup_of_mem_applyChars_sanitizer Gen.powershell_sanitizer_shape) hne

/-- `hcr` is not used: the sanitizer deletes CR -/
theorem C03_powershell (v : Str) (hq : '\'' ∉ san Gen.powershell_sanitizer v)
    (hcr : '\r' ∉ san Gen.powershell_sanitizer v) (hne : san Gen.powershell_sanitizer v ≠ []) :
    Powershell.readBack false (powershellQuote (san Gen.powershell_sanitizer v)) = some [san Gen.powershell_sanitizer v] :=
  C03_powershell_sanitised v hq hne

/-- `it's` is emitted bare and `it's here` is quoted without doubling the quote; neither reads back
    (listed finding `powershell_squote`) -/
theorem C03_powershell_squote_counterexample :
    Powershell.readBack false (powershellQuote "it's".toList) = none ∧
    Powershell.readBack false (powershellQuote "it's here".toList) = none := by
  repeat rw [String.toList_ofList]
  decide

/-- what the quoting step alone does with a CR -/
theorem C03_powershell_cr_counterexample :
    Powershell.readBack false (powershellQuote "a\rb".toList) = none := by decide

example : san Gen.powershell_sanitizer "a b $x (y)".toList ≠ [] ∧ '\'' ∉ san Gen.powershell_sanitizer "a b $x (y)".toList := by
  rw [String.toList_ofList]
  decide

abbrev XO : Reader Xonsh.Mode := Xonsh.reader false

theorem xo_readBack_of_readWords {strict : Bool} {text : Str} {ws : List Str}
    (h : readWords (Xonsh.reader strict) .start Xonsh.final text = some ws) : Xonsh.readBack strict text = some ws := by
  unfold readWords at h
  unfold Xonsh.readBack
  split at h
  · cases h
  · rename_i m o hr
    rw [hr]
    have : m ≠ .startR := by rintro rfl; simp [Xonsh.final] at h
    simpa [this] using h

/-- a raw literal is closed by its quote only after an even run of backslashes -/
def rawClean : Str → Bool
  | [] => true
  | ['\\'] => false
  | '\\' :: _ :: r => rawClean r
  | _ :: r => rawClean r

theorem xo_raw_run (s : Str) (hq : '\'' ∉ s) (hnl : '\n' ∉ s) (hc : rawClean s = true) :
    XO.run .raw s = some (.raw, s.map Out.lit) := by
  fun_induction rawClean s with
  | case1 => rfl
  | case2 => simp at hc
  | case3 d r ih =>
    simp only [List.mem_cons, not_or] at hq hnl
    have h1 : XO.step .raw '\\' = some (.rawesc, [Out.lit '\\']) := by decide
    have h2 : XO.step .rawesc d = some (.raw, [Out.lit d]) := rfl
    exact XO.run_cons_of h1 (XO.run_cons_of h2 (ih hq.2.2 hnl.2.2 hc))
  | case4 c r h1 h2 ih =>
    simp only [List.mem_cons, not_or] at hq hnl
    have hcb : c ≠ '\\' := by
      rintro rfl
      cases r with
      | nil => exact h1 rfl rfl
      | cons d r' => exact h2 d r' rfl rfl
    have h : XO.step .raw c = some (.raw, [Out.lit c]) := by
      simp [Xonsh.reader, Xonsh.step, Ne.symm hq.1, Ne.symm hnl.1, hcb]
    exact XO.run_cons_of h (ih hq.2 hnl.2 hc)

theorem xo_sq_step {c : Char} (h1 : c ≠ '\'') (h2 : c ≠ '\\') (h3 : c ≠ '\n') :
    XO.step .sq c = some (.sq, [Out.lit c]) := by
  simp [Xonsh.reader, Xonsh.step, h1, h2, h3]

structure XoPlain (s : Str) : Prop where
  q : '\'' ∉ s
  cr : '\r' ∉ s
  nl : '\n' ∉ s
  tab : '\t' ∉ s

theorem xo_stepBare_plain {c : Char} (h : c.toNat ∉ specialCodes) (strict atStart : Bool) :
    Xonsh.stepBare strict atStart c = some (.mid, [Out.lit c]) := by
  have hr : c ≠ 'r' := ne_of_not_special h (by decide)
  simp (disch := decide) [Xonsh.stepBare, inSet_of_not_special h, hr]

theorem xo_bare_table : ∀ c : Char, c.toNat ∉ Gen.xonsh_ActionRawValues_containsAny.map Char.toNat → c ≠ '\'' →
    c ≠ '\r' → c ≠ '\n' → c ≠ '\t' →
    XO.step .mid c = some (.mid, [Out.lit c]) ∧ (c = 'r' ∨ XO.step .start c = some (.mid, [Out.lit c])) :=
  codes_lift specialCodes (by decide +kernel) fun c h _ _ _ _ _ =>
    ⟨xo_stepBare_plain h _ _, .inr (xo_stepBare_plain h _ _)⟩

/-- a leading `r` is kept back until the next character shows that no raw literal opens -/
theorem xo_run_start_r (d : Char) (u : Str) (hd : d ≠ '\'') :
    XO.run .start ('r' :: d :: u) = XO.run .mid ('r' :: d :: u) := by
  have h0 : XO.step .start 'r' = some (.startR, []) := by decide
  have h1 : XO.step .mid 'r' = some (.mid, [Out.lit 'r']) := by decide
  have h2 : XO.step .startR d = (XO.step .mid d).map fun p => (p.1, Out.lit 'r' :: p.2) := by
    simp only [Xonsh.reader, Xonsh.step, hd, if_false]
    cases Xonsh.stepBare false false d <;> rfl
  simp only [Reader.run, h0, h1, h2]
  cases XO.step .mid d with
  | none => rfl
  | some p => cases h : XO.run p.1 u <;> simp [h]

/-- **C03 (xonsh).** For a value without `'`, CR, LF and tab whose backslashes do not leave a raw
    literal open, the inserted text - bare, `'...'`, or `r'...'` - reads back as exactly that value. -/
theorem C03_xonsh (s : Str) (hp : XoPlain s) (hne : s ≠ []) (hraw : rawClean s = true) :
    Xonsh.readBack false (xonshQuote s) = some [s] := by
  unfold xonshQuote
  split
  · split
    · have h1 : XO.run .start "r'".toList = some (.raw, [Out.mark]) := by decide
      have h3 : XO.run .raw ['\''] = some (.afterq, []) := by decide
      exact xo_readBack_of_readWords (readWords_quoted h1 (xo_raw_run s hp.q hp.nl hraw) h3 rfl (collect_lits s []))
    · -- ordinary literal: no backslash inside
      rename_i hb
      have hb' : '\\' ∉ s := by simpa using hb
      have h1 : XO.run .start ['\''] = some (.sq, [Out.mark]) := by decide
      have h2 : XO.run .sq s = some (.sq, s.map Out.lit) := XO.run_lits .sq s fun c hcs =>
        xo_sq_step (ne_of_mem_of_not_mem hcs hp.q) (ne_of_mem_of_not_mem hcs hb') (ne_of_mem_of_not_mem hcs hp.nl)
      have h3 : XO.run .sq ['\''] = some (.afterq, []) := by decide
      exact xo_readBack_of_readWords (readWords_quoted h1 h2 h3 rfl (collect_lits s []))
  · -- bare: the first character is read at `start` as it is inside a word
    rename_i hc
    have htab : ∀ c ∈ s, XO.step .mid c = some (.mid, [Out.lit c]) ∧
        (c = 'r' ∨ XO.step .start c = some (.mid, [Out.lit c])) := fun c hcs =>
      xo_bare_table c (Str.codes_not_mem_of_not_containsAny hc c hcs) (ne_of_mem_of_not_mem hcs hp.q)
        (ne_of_mem_of_not_mem hcs hp.cr) (ne_of_mem_of_not_mem hcs hp.nl) (ne_of_mem_of_not_mem hcs hp.tab)
    have hmid : XO.run .mid s = some (.mid, s.map Out.lit) := XO.run_lits .mid s fun c hcs => (htab c hcs).1
    have hstart : s = ['r'] ∨ XO.run .start s = XO.run .mid s := by
      cases s with
      | nil => exact absurd rfl hne
      | cons c t =>
        rcases (htab c (List.mem_cons_self ..)).2 with rfl | h
        · cases t with
          | nil => exact .inl rfl
          | cons d u => exact .inr (xo_run_start_r d u (ne_of_mem_of_not_mem (by simp) hp.q))
        · exact .inr (by simp only [Reader.run, h, (htab c (List.mem_cons_self ..)).1])
    rcases hstart with rfl | h
    · decide
    · exact xo_readBack_of_readWords (readWords_lits (h ▸ hmid) rfl hne)

/-- listed findings `xonsh_squote`, `xonsh_trailing_backslash` -/
theorem C03_xonsh_squote_counterexample :
    Xonsh.readBack false (xonshQuote (san Gen.xonsh_sanitizer "it's".toList)) = some ["it\\'s".toList] := by decide

theorem C03_xonsh_trailing_backslash_counterexample :
    Xonsh.readBack false (xonshQuote "dir\\".toList) = none := by decide

example : XoPlain "a b\\c".toList ∧ rawClean "a b\\c".toList = true := by
  refine ⟨⟨by decide, by decide, by decide, by decide⟩, by decide⟩

abbrev NU : Reader Nushell.Mode := Nushell.reader false

theorem nu_stepBare_plain {c : Char} (h : c.toNat ∉ specialCodes) (strict atStart : Bool) :
    Nushell.stepBare strict atStart c = some (.mid, [Out.lit c]) := by
  simp (disch := decide) [Nushell.stepBare, inSet_of_not_special h]

theorem nu_dq_table : ∀ c : Char, NU.run .dq (Replacer.escChar Gen.nushell_escaper c) = some (.dq, [Out.lit c]) :=
  specialCodes_lift [Gen.nushell_escaper] (by decide +kernel) fun c h hk => by
    have h1 : c ≠ '"' := ne_of_not_special h (by decide)
    have h2 : c ≠ '\\' := ne_of_not_special h (by decide)
    simp [hk, Reader.run_singleton, Nushell.reader, Nushell.step, h1, h2]

/-- a `~` at the start of a bare word is literal through a mode of its own (`tilde`) -/
theorem nu_bare_table : ∀ c : Char, c.toNat ∉ Gen.nushell_ActionRawValues_containsAny.map Char.toNat → c ≠ '\t' →
    c ≠ '\n' → c ≠ '\r' →
    ∀ m ∈ [Nushell.Mode.mid, .tilde, .start], ∃ m' ∈ [Nushell.Mode.mid, .tilde, .start],
      NU.step m c = some (m', [Out.lit c]) :=
  codes_lift specialCodes (by decide +kernel) fun c h _ _ _ _ m hm => ⟨.mid, by simp, by
    have h1 : c ≠ '"' := ne_of_not_special h (by decide)
    simp only [List.mem_cons, List.not_mem_nil, or_false] at hm
    rcases hm with rfl | rfl | rfl <;> simp [Nushell.reader, Nushell.step, nu_stepBare_plain h, h1]⟩

structure NuPlain (s : Str) : Prop where
  tab : '\t' ∉ s
  nl : '\n' ∉ s
  cr : '\r' ∉ s

/-- **C03 (nushell).** For a value without tab, LF and CR the inserted text - bare, `"..."` with
    backslash escapes, or `~"..."` - reads back as exactly that value. -/
theorem C03_nushell (s : Str) (hp : NuPlain s) (hne : s ≠ []) :
    Nushell.readBack false (nushellQuote s) = some [s] := by
  unfold nushellQuote
  have hdq : ∀ t : Str, NU.run .dq (Replacer.applyChars Gen.nushell_escaper t) = some (.dq, t.map Out.lit) :=
    fun t => NU.run_flatMap .dq t fun c _ => nu_dq_table c
  have h3 : NU.run .dq ['"'] = some (.afterq, []) := by decide
  split
  · split
    · rename_i ht
      obtain ⟨t, rfl⟩ := Str.hasPrefix_cons ht
      have h1 : NU.run .start "~\"".toList = some (.dq, [Out.lit '~']) := by decide
      exact readWords_quoted h1 (hdq t) h3 rfl (collect_lits t ['~'])
    · have h1 : NU.run .start ['"'] = some (.dq, [Out.mark]) := by decide
      exact readWords_quoted h1 (hdq s) h3 rfl (collect_lits s [])
  · rename_i hc
    exact readWords_bare [.mid, .tilde, .start] (by simp) (by decide) hne fun c hcs =>
      nu_bare_table c (Str.codes_not_mem_of_not_containsAny hc c hcs) (ne_of_mem_of_not_mem hcs hp.tab)
        (ne_of_mem_of_not_mem hcs hp.nl) (ne_of_mem_of_not_mem hcs hp.cr)

/-- the sanitizer deletes tab (fix b7c1c92), LF and CR: **every** value reads back as its sanitised text -/
theorem C03_nushell_sanitised (v : Str) (hne : san Gen.nushell_sanitizer v ≠ []) :
    Nushell.readBack false (nushellQuote (san Gen.nushell_sanitizer v)) = some [san Gen.nushell_sanitizer v] :=
  have free := Replacer.not_mem_applyChars_sanitizer Gen.nushell_sanitizer_shape Gen.nushell_sanitizer_strips
  C03_nushell _ ⟨free '\t' (by simp) v, free '\n' (by simp) v, free '\r' (by simp) v⟩ hne

/-- what the quoting step alone does with a tab: the word is split -/
theorem C03_nushell_tab_counterexample :
    Nushell.readBack false (nushellQuote "a\tb".toList) = some ["a".toList, "b".toList] := by decide

example : NuPlain "it's a \"q\" ~ $x".toList := by
  rw [String.toList_ofList]
  exact ⟨by decide, by decide, by decide⟩

theorem tc_stepUnq_plain {c : Char} (h : c.toNat ∉ specialCodes) : Tcsh.stepUnq c = some (.mid, [Out.lit c]) := by
  simp (disch := decide) [Tcsh.stepUnq, inSet_of_not_special h]

theorem tc_table : ∀ c : Char, Replacer.lookup Gen.tcsh_sanitizer c = none → c ≠ '{' → c ≠ '}' →
    ∀ m ∈ [Tcsh.Mode.start, .mid],
      Tcsh.reader.run m (Replacer.escChar Gen.tcsh_quoter c) = some (.mid, [Out.lit c]) :=
  specialCodes_lift [Gen.tcsh_quoter] (by decide +kernel) fun c h hk _ _ _ m hm => by
    simp only [List.mem_cons, List.not_mem_nil, or_false] at hm
    rcases hm with rfl | rfl <;> simp [hk, Reader.run_singleton, Tcsh.reader, Tcsh.step, tc_stepUnq_plain h]

/-- **C03 (tcsh).** For a value whose sanitised form has no brace, the backslash-quoted text reads
    back as exactly the sanitised value.  The quoter *deletes* braces (the source says escaping them
    does not work in tcsh): listed finding `tcsh_brace`. -/
theorem C03_tcsh (v : Str) (hb1 : '{' ∉ san Gen.tcsh_sanitizer v) (hb2 : '}' ∉ san Gen.tcsh_sanitizer v)
    (hne : san Gen.tcsh_sanitizer v ≠ []) :
    Tcsh.readBack (tcshQuote v) = some [san Gen.tcsh_sanitizer v] :=
  readWords_flatMap [.start, .mid] (by simp) (by decide) hne fun c hc m hm =>
    ⟨.mid, by simp, tc_table c (Replacer.lookup_of_mem_applyChars_sanitizer Gen.tcsh_sanitizer_shape c hc)
      (ne_of_mem_of_not_mem hc hb1) (ne_of_mem_of_not_mem hc hb2) m hm⟩

theorem C03_tcsh_brace_counterexample :
    Tcsh.readBack (tcshQuote "a{b}".toList) = some ["ab".toList] := by decide

example : '{' ∉ san Gen.tcsh_sanitizer "it's $x *?".toList ∧ san Gen.tcsh_sanitizer "it's $x *?".toList ≠ [] := by
  rw [String.toList_ofList]
  decide

/-- elvish, export: the `Value` field is the sanitised value; no quoting step could alter it -/
theorem C03_elvish (m : Meta) (vs : List RawValue) :
    (elvishRecs m vs).map (·.insert) = vs.map (fun v => san Gen.elvish_sanitizer v.value) := by
  simp [elvishRecs, Function.comp_def]

theorem C03_export (vs : List RawValue) :
    ((exportRecs vs).map (·.value)).Perm (vs.map (·.value)) := by
  unfold exportRecs
  exact (sortBy_perm _ vs).map _

end Carapace.Props.C03

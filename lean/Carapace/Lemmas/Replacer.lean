import Carapace.Basic.Replacer
import Carapace.Basic.Transducer

namespace Carapace
namespace Replacer

theorem mem_of_lookup {t : Replacer} {c : Char} {new : Str} (h : lookup t c = some new) : ([c], new) ∈ t := by
  fun_induction lookup t c <;> simp_all

theorem lookup_nonascii (t : Replacer) (h : keysAscii t = true) (c : Char) (hc : ¬ c.toNat < 128) :
    lookup t c = none := by
  refine Option.eq_none_iff_forall_ne_some.mpr fun new hl => hc ?_
  simpa using List.all_eq_true.mp (List.all_eq_true.mp h _ (mem_of_lookup hl)) c

/-- the code points of the keys -/
def keyCodes (t : Replacer) : List Nat := t.flatMap fun p => p.1.map Char.toNat

theorem escChar_of_not_key {t : Replacer} {c : Char} (h : c.toNat ∉ keyCodes t) : escChar t c = [c] := by
  have : lookup t c = none :=
    Option.eq_none_iff_forall_ne_some.mpr fun _ hl => h (List.mem_flatMap.mpr ⟨_, mem_of_lookup hl, by simp⟩)
  simp [escChar, this]

theorem applyChars_cons (t : Replacer) (c : Char) (s : Str) :
    applyChars t (c :: s) = escChar t c ++ applyChars t s := List.flatMap_cons

theorem applyChars_append (t : Replacer) (a b : Str) : applyChars t (a ++ b) = applyChars t a ++ applyChars t b :=
  List.flatMap_append

theorem applyChars_eq_self (t : Replacer) (s : Str) (h : ∀ c ∈ s, lookup t c = none) : applyChars t s = s := by
  induction s with
  | nil => rfl
  | cons c s ih =>
    rw [applyChars_cons, ih fun d hd => h d (List.mem_cons_of_mem _ hd)]
    simp [escChar, h c List.mem_cons_self]

theorem mem_applyChars {t : Replacer} {s : Str} {c : Char} (h : c ∈ applyChars t s) :
    c ∈ s ∧ lookup t c = none ∨ ∃ d ∈ s, ∃ new, lookup t d = some new ∧ c ∈ new := by
  obtain ⟨d, hd, hcd⟩ := List.mem_flatMap.mp h
  cases hl : lookup t d with
  | none =>
    obtain rfl : c = d := by simpa [escChar, hl] using hcd
    exact .inl ⟨hd, hl⟩
  | some new => exact .inr ⟨d, hd, new, hl, by simpa [escChar, hl] using hcd⟩

theorem not_mem_applyChars {t : Replacer} {s : Str} {c : Char} (hs : c ∉ s) (ht : ∀ p ∈ t, c ∉ p.2) :
    c ∉ applyChars t s :=
  fun h => (mem_applyChars h).elim (fun h' => hs h'.1) fun ⟨_, _, _, hl, hc⟩ => ht _ (mem_of_lookup hl) hc

/-- every entry deletes one character -/
def isSanitizer (t : Replacer) : Bool := t.all (fun p => p.1.length == 1 && p.2.isEmpty)

theorem lookup_sanitizer {t : Replacer} (h : isSanitizer t = true) {c : Char} {new : Str}
    (hl : lookup t c = some new) : new = [] := by
  simpa using List.all_eq_true.mp h _ (mem_of_lookup hl)

/-- what a sanitizer leaves is no key of it -/
theorem lookup_of_mem_applyChars_sanitizer {t : Replacer} (h : isSanitizer t = true) {s : Str} :
    ∀ c ∈ applyChars t s, lookup t c = none :=
  fun _ hc => (mem_applyChars hc).elim (·.2) fun ⟨_, _, _, hl, hcn⟩ => by simp [lookup_sanitizer h hl] at hcn

theorem not_mem_applyChars_sanitizer {t : Replacer} (h : isSanitizer t = true) {cs : List Char}
    (hcs : ∀ c ∈ cs, lookup t c = some []) : ∀ c ∈ cs, ∀ s, c ∉ applyChars t s :=
  fun c hc _ hm => by cases (hcs c hc).symm.trans (lookup_of_mem_applyChars_sanitizer h c hm)

end Replacer

/-- a table of a reader is evaluated on the special code points and on the keys of the escape tables `ts` it speaks of;
    `hn`: any other character takes the last branch of the reader and has no row in the tables -/
theorem specialCodes_lift {P : Char → Prop} (ts : List Replacer)
    (h : ∀ n ∈ specialCodes ++ (ts.flatMap Replacer.keyCodes).filter (· ∉ specialCodes), P (Char.ofNat n))
    (hn : ∀ c : Char, c.toNat ∉ specialCodes → (∀ t ∈ ts, Replacer.escChar t c = [c]) → P c) : ∀ c, P c :=
  codes_lift _ h fun c hc => by
    rw [List.mem_append, not_or, List.mem_filter] at hc
    exact hn c hc.1 fun t ht => Replacer.escChar_of_not_key fun hk =>
      hc.2 ⟨List.mem_flatMap.mpr ⟨t, ht, hk⟩, by simpa using hc.1⟩

end Carapace

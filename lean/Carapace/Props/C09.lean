/-
  C09 — parallel invocation (Batch) equals sequential invocation.
  Model: every member writes its result into its own slot (batch.go:17-31); a schedule is the
  order in which the member goroutines run.  The data-race part of the property is a runtime
  matter: searched with the race detector by the check, not proved (see DESIGN.md, C09).
-/
import Carapace.Model.Actions

namespace Carapace.Props.C09
open Carapace.Model

/-- slots after running the members in the order `sched` (a member may run at any point) -/
def runSchedule (ms : List Expr) (c : Ctx) : List Nat → (Nat → Option Invoked) → (Nat → Option Invoked)
  | [], slots => slots
  | i :: rest, slots =>
    runSchedule ms c rest (fun j => if j = i then some (invoke (ms.getD i (.plain [])) c) else slots j)

theorem runSchedule_spec (ms : List Expr) (c : Ctx) (sched : List Nat) (slots : Nat → Option Invoked) (j : Nat) :
    runSchedule ms c sched slots j =
      if j ∈ sched then some (invoke (ms.getD j (.plain [])) c) else slots j := by
  induction sched generalizing slots with
  | nil => simp [runSchedule]
  | cons i rest ih =>
    simp only [runSchedule, ih, List.mem_cons]
    by_cases h : j = i
    · subst h
      simp
    · simp [h]

/-- **C09 (schedule independence).** Whatever the interleaving of the member goroutines, the slots hold what the
    members yield when invoked one after the other. -/
theorem C09_schedule_independent (ms : List Expr) (c : Ctx) (sched : List Nat)
    (hs : sched.Perm (List.range ms.length)) (j : Nat) (hj : j < ms.length) :
    runSchedule ms c sched (fun _ => none) j = some (invoke (ms.getD j (.plain [])) c) := by
  rw [runSchedule_spec, if_pos (hs.symm.subset (List.mem_range.mpr hj))]

theorem C09_any_two_schedules (ms : List Expr) (c : Ctx) (s1 s2 : List Nat)
    (h1 : s1.Perm (List.range ms.length)) (h2 : s2.Perm (List.range ms.length)) (j : Nat) (hj : j < ms.length) :
    runSchedule ms c s1 (fun _ => none) j = runSchedule ms c s2 (fun _ => none) j := by
  rw [C09_schedule_independent ms c s1 h1 j hj, C09_schedule_independent ms c s2 h2 j hj]

theorem C09_equals_sequential (es : List Expr) (c : Ctx) :
    invoke (.batch es) c = batchMerge (invokeList es c) := rfl

theorem C09_batch_small (e : Expr) (c : Ctx) :
    invoke (.batch [e]) c = invoke e c ∧ invoke (.batch []) c = ({}, []) := ⟨rfl, rfl⟩

theorem invokeList_eq_map (es : List Expr) (c : Ctx) : invokeList es c = es.map (fun e => invoke e c) := by
  induction es with
  | nil => rfl
  | cons e es ih => exact congrArg (invoke e c :: ·) ih

/-- candidates (invokedAction.go:36-43 Merge, value.go Unique): a later member's entry replaces an earlier one -/
theorem C09_merge_values (rs : List Invoked) : (mergeAll rs).2 = unique (rs.flatMap (·.2)) := rfl

theorem usage_foldl (rs : List Invoked) (m0 : Meta) :
    (rs.foldl (fun acc r => Meta.merge acc r.1) m0).usage =
      ((rs.map (·.1.usage)).filter (fun u => !u.isEmpty)).getLast?.getD m0.usage := by
  induction rs generalizing m0 with
  | nil => rfl
  | cons r rs ih =>
    rw [List.foldl_cons, ih]
    -- a non-empty usage replaces what was there and is the fallback of what follows; an empty one changes nothing
    cases h : r.1.usage.isEmpty <;> simp [Meta.merge, h, List.getLast?_cons]

/-- usage (meta.go Merge): the last non-empty usage is kept -/
theorem C09_merge_usage (rs : List Invoked) :
    (mergeAll rs).1.usage = ((rs.map (·.1.usage)).filter (fun u => !u.isEmpty)).getLast?.getD [] :=
  usage_foldl rs {}

theorem mem_insertMsg (m x : Str) (l : List Str) : x ∈ insertMsg m l ↔ x = m ∨ x ∈ l := by
  fun_induction insertMsg m l <;> simp_all [or_left_comm]

theorem mem_mergeMsgs (a b : List Str) (x : Str) : x ∈ mergeMsgs a b ↔ x ∈ a ∨ x ∈ b := by
  unfold mergeMsgs
  induction b generalizing a with
  | nil => simp
  | cons m b ih => simp [ih, mem_insertMsg, or_assoc, or_left_comm]

theorem mergeAll_messages (rs : List Invoked) :
    (mergeAll rs).1.messages = mergeMsgs [] (rs.flatMap (·.1.messages)) := by
  rw [mergeMsgs, List.foldl_flatMap]
  exact (List.foldl_hom Meta.messages fun _ _ => rfl).symm

/-- messages: united -/
theorem C09_merge_messages (rs : List Invoked) (x : Str) :
    x ∈ (mergeAll rs).1.messages ↔ ∃ r ∈ rs, x ∈ r.1.messages := by
  simp [mergeAll_messages, mem_mergeMsgs]

end Carapace.Props.C09

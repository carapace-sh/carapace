/-
  `commonPrefix` of internal/shell/bash/action.go and tcsh/action.go: the length of the longest common prefix of
  the two byte strings, cut back while it points at a continuation byte (fix 18f19b1).  On UTF-8 text that is the
  common prefix in characters (`Model.commonPrefix`) with no partial character left; the plain count leaves one.
-/
import Carapace.Lemmas.Utf8
import Carapace.Model.Shells

namespace Carapace.Props.C02Prefix
open Carapace.Utf8

/-- `!utf8.RuneStart(b)`: a continuation byte `10xxxxxx` -/
def isCont (b : Nat) : Bool := decide (0x80 ≤ b) && decide (b < 0xC0)

/-- `for i > 0 && i < len(a) && !utf8.RuneStart(a[i]) { i-- }` -/
def backoff (a : List Nat) : Nat → Nat
  | 0 => 0
  | i + 1 => if decide (i + 1 < a.length) && isCont (a.getD (i + 1) 0) then backoff a i else i + 1

/-- the Go function on the UTF-8 bytes of two texts: the characters of `a` inside the cut, and how many
    bytes of a partial character are left over -/
def goCommonPrefix (a b : Str) : Str × Nat :=
  byteTake (backoff (encode a) (commonLen (encode a) (encode b))) a

theorem commonLen_le_left (a b : List Nat) : commonLen a b ≤ a.length := by
  fun_induction commonLen a b with
  | case1 _ _ _ ih => exact Nat.succ_le_succ ih
  | case2 => exact Nat.zero_le _
  | case3 => exact Nat.zero_le _

/-- otherwise one encoding would be a prefix of the other -/
theorem enc_differ (c d : Char) (h : c ≠ d) :
    commonLen (encodeChar c) (encodeChar d) < (encodeChar c).length ∧
    commonLen (encodeChar c) (encodeChar d) < (encodeChar d).length := by
  have key : ∀ {c d : Char}, c ≠ d → commonLen (encodeChar c) (encodeChar d) < (encodeChar c).length := by
    intro c d h
    refine Nat.lt_of_le_of_ne (commonLen_le_left _ _) fun e => h ?_
    exact eq_of_encodeChar_prefix (prefix_of_commonLen_eq e)
  exact ⟨key h, commonLen_comm _ _ ▸ key (Ne.symm h)⟩

theorem encodeChar_shape (c : Char) :
    ∃ b bs, encodeChar c = b :: bs ∧ isCont b = false ∧ ∀ x ∈ bs, isCont x = true := by
  have cont : ∀ k, isCont (0x80 + k % 64) = true := fun k => by
    simp [isCont]
    omega
  have lead : ∀ b, b < 0x80 ∨ 0xC0 ≤ b → isCont b = false := fun b h => by
    simp [isCont]
    omega
  unfold encodeChar
  by_cases h1 : c.toNat < 0x80
  · exact ⟨_, _, if_pos h1, lead _ (.inl h1), by simp⟩
  by_cases h2 : c.toNat < 0x800
  · exact ⟨_, _, (if_neg h1).trans (if_pos h2), lead _ (.inr (Nat.le_add_right ..)), by simp [cont]⟩
  by_cases h3 : c.toNat < 0x10000
  · exact ⟨_, _, (if_neg h1).trans ((if_neg h2).trans (if_pos h3)),
      lead _ (.inr (Nat.le_add_right_of_le (by decide))), by simp [cont]⟩
  · exact ⟨_, _, (if_neg h1).trans ((if_neg h2).trans (if_neg h3)),
      lead _ (.inr (Nat.le_add_right_of_le (by decide))), by simp [cont]⟩

/-- a byte string that does not begin inside a character -/
def StartsClean (l : List Nat) : Prop := l = [] ∨ isCont (l.getD 0 0) = false

theorem encode_startsClean (s : Str) : StartsClean (encode s) := by
  cases s with
  | nil => exact Or.inl rfl
  | cons c s =>
    obtain ⟨b, bs, e, hb, -⟩ := encodeChar_shape c
    rw [encode_cons, e]
    exact Or.inr hb

theorem backoff_pos (a : List Nat) {m : Nat} (hm : 0 < m) :
    backoff a m = if decide (m < a.length) && isCont (a.getD m 0) then backoff a (m - 1) else m := by
  cases m with
  | zero => cases hm
  | succ i => rfl

theorem backoff_append (p rest : List Nat) (hp : p ≠ []) (hr : StartsClean rest) (n : Nat) :
    backoff (p ++ rest) (p.length + n) = p.length + backoff rest n := by
  have hpos : 0 < p.length := List.length_pos_iff.mpr hp
  have step : ∀ n, backoff (p ++ rest) (p.length + n) =
      if decide (n < rest.length) && isCont (rest.getD n 0) then backoff (p ++ rest) (p.length + n - 1)
      else p.length + n := fun n => by
    rw [backoff_pos _ (Nat.add_pos_left hpos n)]
    simp [List.getD_eq_getElem?_getD, List.getElem?_append_right]
  induction n with
  | zero =>
    -- the loop stops at once: `rest` is empty or begins with a start byte
    rcases hr with rfl | h
    · rw [step]
      rfl
    · rw [step, h, Bool.and_false]
      rfl
  | succ n ih =>
    rw [step, backoff]
    split
    · exact ih
    · rfl

theorem backoff_cont (b : Nat) (bs rest : List Nat) (h : ∀ x ∈ bs, isCont x = true) (j : Nat) (hj : j ≤ bs.length) :
    backoff (b :: bs ++ rest) j = 0 := by
  induction j with
  | zero => rfl
  | succ j ih =>
    have hlt : j < bs.length := hj
    have hget : (b :: bs ++ rest).getD (j + 1) 0 = bs[j] := by
      simp [List.getD_eq_getElem?_getD, List.getElem?_append_left hlt, List.getElem?_eq_getElem hlt]
    have hlen : decide (j + 1 < (b :: bs ++ rest).length) = true := by
      simp
      omega
    simp only [backoff, hget, hlen, h _ (List.getElem_mem hlt), Bool.and_self, if_true]
    exact ih (by omega)

theorem backoff_inside (c : Char) (rest : List Nat) (j : Nat) (hj : j < (encodeChar c).length) :
    backoff (encodeChar c ++ rest) j = 0 := by
  obtain ⟨b, bs, e, -, hbs⟩ := encodeChar_shape c
  rw [e] at hj ⊢
  exact backoff_cont b bs rest hbs j (Nat.le_of_lt_succ hj)

/-- **`commonPrefix` with its cut-back is the common prefix in characters, and leaves no partial character.** -/
theorem goCommonPrefix_eq (a b : Str) : goCommonPrefix a b = (Model.commonPrefix a b, 0) := by
  unfold goCommonPrefix
  fun_induction Model.commonPrefix a b with
  | case1 s c t ih =>
    have hne : encodeChar c ≠ [] := List.ne_nil_of_length_pos (encodeChar_length_pos c)
    rw [encode_cons, encode_cons, commonLen_append_same, backoff_append _ _ hne (encode_startsClean s),
      byteTake_add_cons, ih]
  | case2 c s d t hcd =>
    have hd := enc_differ c d hcd
    rw [encode_cons, encode_cons, commonLen_append_lt _ _ _ _ hd.1 hd.2, backoff_inside c _ _ hd.1]
    rfl
  | case3 a b h =>
    -- one of the texts is empty: so is the common part of the bytes
    have : commonLen (encode a) (encode b) = 0 := by
      cases a with
      | nil => rfl
      | cons c s => cases b with
        | nil => cases encode (c :: s) <;> rfl
        | cons d t => exact (h c s d t rfl rfl).elim
    rw [this]
    cases a <;> rfl

/-- the plain byte count cuts `ß` / `ü` (same lead byte) in half, the cut-back count does not -/
theorem byte_prefix_splits_character :
    byteTake (commonLen (encode ";Xß".toList) (encode ";Xü1".toList)) ";Xß".toList = (";X".toList, 1) ∧
    goCommonPrefix ";Xß".toList ";Xü1".toList = (";X".toList, 0) := by
  repeat rw [String.toList_ofList]
  decide

end Carapace.Props.C02Prefix

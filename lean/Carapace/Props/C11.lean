/-
  C11 — MultiParts completes a set of values segment by segment, soundly and completely.
  Over the model `tokenize` / `toMultiPartsValues` (a transcription of invokedAction.go:98-172).
  `C11_tokenize_concat`, `C11_sound` and `C11_complete` assume that no divider is empty: with an empty divider the
  code panics / makes values unreachable (listed findings, counterexamples at the end).
-/
import Carapace.Lemmas.Actions

namespace Carapace.Props.C11
open Carapace.Model

theorem C11_tokenize_concat (ds : List Str) (h : ∀ d ∈ ds, d ≠ []) (s : Str) : (tokenize s ds).flatten = s :=
  (tokenize_pieces ds h s).flatten

theorem C11_tokenize_nonempty (ds : List Str) (h : ∀ d ∈ ds, d ≠ []) (s : Str) : tokenize s ds ≠ [] :=
  (tokenize_pieces ds h s).ne_nil

/-- the candidate `MultiParts` builds from value `v` at depth `n` -/
def candOf (ds : List Str) (n : Nat) (v : Str) : Str := ((tokenize v ds).take n).flatten

theorem candOf_prefix (ds : List Str) (hds : ∀ d ∈ ds, d ≠ []) (n : Nat) (v : Str) : ∃ r, v = candOf ds n v ++ r :=
  ⟨((tokenize v ds).drop n).flatten,
    by rw [candOf, ← List.flatten_append, List.take_append_drop, C11_tokenize_concat ds hds]⟩

/-- the offered values are exactly the first `n` segments of the matching values (`n` = segments of the typed text) -/
theorem toMultiPartsValues_values (ci : Bool) (ds : List Str) (hds : ∀ d ∈ ds, d ≠ []) (vs : List RawValue) (cv : Str) :
    ∃ out, toMultiPartsValues ci ds vs cv = some out ∧
      ∀ w, w ∈ out.map (·.value) ↔ ∃ v ∈ vs, matchHasPrefix ci v.value cv = true ∧
        (tokenize v.value ds).length ≥ (tokenize cv ds).length ∧ w = candOf ds (tokenize cv ds).length v.value := by
  have hE : (tokenize cv ds).isEmpty = false := by simpa using C11_tokenize_nonempty ds hds cv
  simp only [toMultiPartsValues, hE, Bool.false_eq_true, if_false]
  refine ⟨_, rfl, fun w => ?_⟩
  -- de-duplication keeps the set of values; what is left is the record built from one value `v`
  rw [mem_values_uniqueByValue, List.map_filterMap, List.mem_filterMap]
  refine exists_congr fun v => and_congr_right fun _ => ?_
  by_cases hp : matchHasPrefix ci v.value cv = true
  · by_cases hl : (tokenize v.value ds).length ≥ (tokenize cv ds).length
    · simp only [hp, hl, if_true, true_and]
      split <;> simp [candOf, eq_comm]
    · simp [hp, hl]
  · simp [hp]

/-- **sound**: every offered candidate is the first `n` segments of an original value that starts with the typed text
    (`n` = segments of the typed text) - hence a prefix of that value.  No panic for non-empty dividers. -/
theorem C11_sound (ci : Bool) (ds : List Str) (hds : ∀ d ∈ ds, d ≠ []) (vs : List RawValue) (cv : Str) :
    ∃ out, toMultiPartsValues ci ds vs cv = some out ∧
      ∀ cand ∈ out, ∃ v ∈ vs, matchHasPrefix ci v.value cv = true ∧
        (tokenize v.value ds).length ≥ (tokenize cv ds).length ∧
        cand.value = candOf ds (tokenize cv ds).length v.value ∧
        (∃ r, v.value = cand.value ++ r) := by
  obtain ⟨out, ho, h⟩ := toMultiPartsValues_values ci ds hds vs cv
  refine ⟨out, ho, fun cand hc => ?_⟩
  obtain ⟨v, hv, hp, hl, hval⟩ := (h cand.value).mp (List.mem_map_of_mem hc)
  exact ⟨v, hv, hp, hl, hval, hval ▸ candOf_prefix ds hds _ v.value⟩

/-- **complete**: every original value that starts with the typed text (and has at least as many segments) is the
    continuation of an offered candidate -/
theorem C11_complete (ci : Bool) (ds : List Str) (hds : ∀ d ∈ ds, d ≠ []) (vs : List RawValue) (cv : Str)
    (v : RawValue) (hv : v ∈ vs) (hp : matchHasPrefix ci v.value cv = true)
    (hl : (tokenize v.value ds).length ≥ (tokenize cv ds).length) :
    ∃ out, toMultiPartsValues ci ds vs cv = some out ∧
      ∃ cand ∈ out, cand.value = candOf ds (tokenize cv ds).length v.value := by
  obtain ⟨out, ho, h⟩ := toMultiPartsValues_values ci ds hds vs cv
  obtain ⟨cand, hc, hcv⟩ := List.mem_map.mp ((h _).mpr ⟨v, hv, hp, hl, rfl⟩)
  exact ⟨out, ho, cand, hc, hcv⟩

/-- **exactly one**: the offered candidates are pairwise distinct -/
theorem C11_distinct (ci : Bool) (ds : List Str) (vs : List RawValue) (cv : Str) (out : List RawValue)
    (h : toMultiPartsValues ci ds vs cv = some out) : (out.map (·.value)).Nodup := by
  unfold toMultiPartsValues at h
  by_cases hE : (tokenize cv ds).isEmpty = true
  · simp only [hE, if_true] at h
    by_cases ha : (vs.any fun val => matchHasPrefix ci val.value cv) = true
    · simp [ha] at h
    · simp only [ha, Bool.false_eq_true, if_false, Option.some.injEq] at h
      subst h
      simp
  · simp only [hE, Bool.false_eq_true, if_false, Option.some.injEq] at h
    subst h
    exact uniqueByValue_nodup _

/-- intermediate steps suppress the trailing space: the no-space set holds the divider's last character -/
theorem C11_nospace_single (d : Str) (c : Char) (h : d.getLast? = some c) :
    multiPartsNospace [d] = [c] := by
  simp [multiPartsNospace, multiPartsNospace.go, h, SuffixMatcher.add, sortBy, insertSorted]

/-- one step at a time: the candidate extends the typed text by at most one segment -/
theorem C11_one_segment (ds : List Str) (n : Nat) (v : Str) (h : (tokenize v ds).length ≥ n) :
    ((tokenize v ds).take n).length = n := by
  rw [List.length_take, Nat.min_eq_left h]

/-- an instance of finding `multiparts_empty_divider_panic`: the typed text has no token, the real code indexes
    `splitted[-1]`, the model reports `none`.  (So does any divider list under which the typed text tokenizes to `[]`,
    e.g. typed `a` with dividers `a`, empty.) -/
theorem C11_empty_divider_panics :
    toMultiPartsValues false [[]] [{ value := "ab".toList, display := "ab".toList }] [] = none := by decide

/-- finding `multiparts_empty_divider_unreachable`: the only candidate is `a` again, so `ab` cannot be reached -/
theorem C11_empty_divider_unreachable :
    (toMultiPartsValues false [[]] [{ value := "a".toList, display := [] }, { value := "ab".toList, display := [] }] ['a']).map
      (·.map (·.value)) = some ["a".toList] := by decide

end Carapace.Props.C11

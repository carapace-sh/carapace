/-
  C03 — inserted text reads back as exactly the candidate value.  This file: the POSIX-style reader, oil, bash.
  The per-character obligations are decided by kernel evaluation, for every code point that a reader names
  (`specialCodes`) or that is a key of a table, against the replacer tables and character sets *regenerated
  from /repo* (Carapace/Gen); any other character is literal for the reader (`cls_plain`) and has no row.
-/
import Carapace.Model.Shells
import Carapace.Spec.Reader.Posix
import Carapace.Lemmas.GenTables
import Carapace.Lemmas.Str

namespace Carapace.Props.C03
open Carapace.Model Carapace.Spec

abbrev B : Reader Posix.Mode := Posix.reader Posix.bash

theorem cls_plain {c : Char} (h : c.toNat ∉ specialCodes) : Posix.cls c = .plain := by
  simp only [specialCodes, List.mem_cons, List.not_mem_nil, or_false, not_or] at h
  simp [Posix.cls, Posix.clsNat, h]

/-- a character that a POSIX-style reader takes literally wherever it stands in a word -/
def oilPlain (c : Char) : Bool :=
  decide (Posix.stepUnq Posix.bash true c = some (.mid, [Out.lit c])) &&
  decide (Posix.stepUnq Posix.bash false c = some (.mid, [Out.lit c]))

/-- **C03 (oil), partial.** oil quotes nothing: for a single candidate `oilFormat` emits the sanitised value (the
    `Gen.oil_nospaceIndicator` it may append is not modelled here).  A text reads back as itself when every
    character is plain for the shell (listed finding `oil_unquoted`). -/
theorem C03_oil_partial (s : Str) (hne : s ≠ []) (hp : ∀ c ∈ s, oilPlain c = true) :
    Posix.readBack Posix.bash s = some [s] := by
  refine readWords_bare [.start, .mid] (by simp) (by decide) hne fun c hc m hm => ⟨.mid, by simp, ?_⟩
  have := hp c hc
  simp only [oilPlain, Bool.and_eq_true, decide_eq_true_eq] at this
  revert m
  simpa [Posix.reader, Posix.step] using this

theorem C03_oil_counterexample : Posix.readBack Posix.bash "my file".toList = some ["my".toList, "file".toList] := by
  -- the literal's `toList` is rewritten to its characters first: evaluating it decodes UTF-8, which costs the
  -- kernel more than the reader does
  repeat rw [String.toList_ofList]
  decide

theorem bash_sanitizer_keys : Replacer.keysAscii Gen.bash_sanitizer = true := by decide

/-- the branches of `bashInsert` (double quotes, `~`, bare) in one theorem: one sweep over the code points
    instead of three -/
theorem bash_tables : ∀ c : Char,
    B.run .dq (Replacer.escChar Gen.bash_escapingQuotedReplacer c) = some (.dq, [Out.lit c]) ∧
    (Replacer.lookup Gen.bash_sanitizer c = none →
      B.run .mid (Replacer.escChar Gen.bash_escapingReplacer c) = some (.mid, [Out.lit c])) ∧
    (c.toNat ∉ Gen.bash_requiresQuoting_chars.map Char.toNat → oilPlain c = true) :=
  specialCodes_lift [Gen.bash_escapingQuotedReplacer, Gen.bash_escapingReplacer] (by decide +kernel) fun c h hk => by
    simp [hk, Reader.run_singleton, Posix.reader, Posix.step, Posix.stepUnq, oilPlain, cls_plain h]

theorem posix_tilde_reads {t : Replacer} {s : Str}
    (h : ∀ c ∈ s, B.run .mid (Replacer.escChar t c) = some (.mid, [Out.lit c])) :
    Posix.readBack Posix.bash ('~' :: Replacer.applyChars t s) = some ['~' :: s] := by
  have h1 : B.run .start ['~'] = some (.mid, [Out.lit '~']) := by decide
  exact readWords_lits (s := '~' :: s) (B.run_append_of h1 (B.run_flatMap .mid s h))
    rfl (by simp)

theorem posix_dq_reads (s : Str) :
    Posix.readBack Posix.bash (['"'] ++ Replacer.applyChars Gen.bash_escapingQuotedReplacer s ++ ['"']) = some [s] := by
  have h1 : B.run .start ['"'] = some (.dq, [Out.mark]) := by decide
  have h3 : B.run .dq ['"'] = some (.mid, []) := by decide
  exact readWords_quoted h1 (B.run_flatMap .dq s fun c _ => (bash_tables c).1) h3 rfl
    (collect_lits s [])

/-- **C03 (bash).** For every value whose sanitised form is not empty, the text bash inserts
    reads back, by bash's own word splitting and quoting rules, as exactly one word: the
    value with tab, CR and LF dropped.  No hypothesis on the characters of the value
    (a leading `~` stays a tilde, as the property allows). -/
theorem C03_bash (env : Env) (v : Str) (hne : san Gen.bash_sanitizer v ≠ []) :
    Posix.readBack Posix.bash (bashInsert env v) = some [san Gen.bash_sanitizer v] := by
  have hsan : ∀ c ∈ san Gen.bash_sanitizer v, Replacer.lookup Gen.bash_sanitizer c = none :=
    Replacer.lookup_of_mem_applyChars_sanitizer Gen.bash_sanitizer_shape
  unfold bashInsert
  generalize san Gen.bash_sanitizer v = s at hne hsan
  dsimp only
  split
  · -- leading tilde: it stays, the table has no row for it
    rename_i ht
    obtain ⟨t, rfl⟩ := Str.hasPrefix_cons ht
    rw [Replacer.applyChars_cons, Gen.bash_escapingReplacer_tilde]
    exact posix_tilde_reads fun c hc =>
      (bash_tables c).2.1 (hsan c (List.mem_cons_of_mem _ hc))
  · split
    · exact posix_dq_reads s
    · -- bare: every character is plain, as for oil
      rename_i hq
      exact C03_oil_partial s hne fun c hc => (bash_tables c).2.2 fun h =>
        Str.codes_not_mem_of_not_containsAny hq c hc (List.map_append ▸ List.mem_append_left _ h)

example : san Gen.bash_sanitizer "it's \"a\" $x *?`".toList ≠ [] := by
  rw [String.toList_ofList]
  decide

end Carapace.Props.C03

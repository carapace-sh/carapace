/- the models' `insertSorted` / `sortBy` rearrange their input; membership and length follow -/
import Carapace.Basic.Str

namespace Carapace

theorem insertSorted_perm {α} (lt : α → α → Bool) (x : α) (xs : List α) :
    (insertSorted lt x xs).Perm (x :: xs) := by
  fun_induction insertSorted lt x xs with
  | case1 => exact .refl _
  | case2 => exact .refl _
  | case3 y ys _ ih => exact (ih.cons y).trans (.swap x y ys)

theorem mem_insertSorted {α} (lt : α → α → Bool) (x y : α) (xs : List α) :
    y ∈ insertSorted lt x xs ↔ y = x ∨ y ∈ xs :=
  (insertSorted_perm lt x xs).mem_iff.trans List.mem_cons

theorem length_insertSorted {α} (lt : α → α → Bool) (x : α) (xs : List α) :
    (insertSorted lt x xs).length = xs.length + 1 :=
  (insertSorted_perm lt x xs).length_eq

theorem foldl_insertSorted_perm {α} (lt : α → α → Bool) (xs acc : List α) :
    (xs.foldl (fun acc x => insertSorted lt x acc) acc).Perm (xs ++ acc) := by
  induction xs generalizing acc with
  | nil => exact List.Perm.refl _
  | cons x xs ih =>
    refine (ih _).trans ?_
    refine (List.perm_append_left_iff xs).mpr (insertSorted_perm lt x acc) |>.trans ?_
    exact List.perm_middle

theorem sortBy_perm {α} (lt : α → α → Bool) (xs : List α) : (sortBy lt xs).Perm xs := by
  have := foldl_insertSorted_perm lt xs []
  simpa [sortBy] using this

theorem mem_sortBy {α} (lt : α → α → Bool) (xs : List α) (y : α) : y ∈ sortBy lt xs ↔ y ∈ xs :=
  (sortBy_perm lt xs).mem_iff

theorem length_sortBy {α} (lt : α → α → Bool) (xs : List α) : (sortBy lt xs).length = xs.length :=
  (sortBy_perm lt xs).length_eq

end Carapace

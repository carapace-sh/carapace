/-
  C01 over the features of the carapace-pflag fork: a value attached by the flag's own `OptargDelimiter`, and `Nargs`
  (a flag that takes several of the following words) as carapace's loop and the parser's `parseNargs` read them.
-/
import Carapace.Model.TraverseG
import Carapace.Lemmas.Str
import Carapace.Lemmas.Pflag

namespace Carapace.Props.C01Fork
open Carapace.Model Carapace.Spec.Pflag Carapace.Spec.PflagG

theorem find_unique {α} (p : α → Bool) (l : List α) (x : α) (hx : x ∈ l) (hp : p x = true)
    (hu : ∀ y ∈ l, p y = true → y = x) : l.find? p = some x := by
  cases h : l.find? p with
  | none => exact absurd hp (by simpa using List.find?_eq_none.mp h x hx)
  | some y => rw [hu y (List.mem_of_find?_eq_some h) (List.find?_some h)]

/-- `k ++ d :: v`: key, its delimiter, value; `x`: a key that claims the word through its own delimiter `d'`.
    Were `d' ≠ d`, the cut at `d'` would run past `d`, and `x` contain it. -/
theorem cut_claims {d d' : Char} {k x : Str} (v : Str) (hd : d ∉ k) (hd' : d' ∉ k) (hx : d ∉ x)
    (h : (Str.cutChar d' (k ++ d :: v)).1 = x) : x = k := by
  by_cases he : d = d'
  · subst he
    rw [Str.cutChar_append d k v hd] at h
    exact h.symm
  · rw [Str.cutChar_append_of_not_mem d' k _ hd', Str.cutChar_cons_ne d' d v he] at h
    exact absurd (by rw [← h]; simp) hx

/-- no delimiter occurs in a name: under this `findLongFlag`, which walks a map, has one answer (Spec/PflagG.lean,
    `findLongG`) -/
def DelimFree (fs : PFlagsG) : Prop := ∀ f ∈ fs, ∀ g ∈ fs, g.delim ∉ f.name

/-- pflag's `AddFlag` panics on a name that is registered already -/
def NamesDistinct (fs : PFlagsG) : Prop := ∀ f ∈ fs, ∀ g ∈ fs, f.name = g.name → f = g

/-- `q`: `lookupPosixLonghandArg` visits the flags of mode Default only, `findLongFlag` all -/
theorem find_attached (fs : PFlagsG) (hd : DelimFree fs) (hn : NamesDistinct fs) (f : PFlagG) (hf : f ∈ fs) (v : Str)
    (q : PFlagG → Bool) (hq : q f = true) :
    fs.find? (fun g => q g && (Str.cutChar g.delim (f.name ++ f.delim :: v)).1 == g.name) = some f := by
  apply find_unique _ fs f hf
  · simp [hq, Str.cutChar_append f.delim f.name v (hd f hf f hf)]
  · intro g hg hp
    simp only [Bool.and_eq_true, beq_iff_eq] at hp
    exact hn g hg f hf (cut_claims v (hd f hf f hf) (hd f hf g hg) (hd g hg f hf) hp.2)

/-- **C01, custom delimiter.** `--name<d>value`: carapace resolves the word to flag `name` with prefix
    `--name<d>` (the flag's completion is offered, prefixed), and the parser gives `value` to that flag and
    consumes nothing else. -/
theorem C01_fork_long_attached (fs : PFlagsG) (hd : DelimFree fs) (hn : NamesDistinct fs) (f : PFlagG) (hf : f ∈ fs)
    (hm : f.mode = 0) (c : Char) (n : Str) (hname : f.name = c :: n) (hc : c ≠ '-' ∧ c ≠ '=') (v : Str) (hv : valueOkG f v = true) (rest : List Str) (wl : Bool) :
    lookupArgG (fs.map PFlagG.toDefG) ('-' :: '-' :: (f.name ++ f.delim :: v)) =
        some ⟨f.toDefG, "--".toList ++ f.name ++ [f.delim], [v]⟩ ∧
    parseLongG fs wl (f.name ++ f.delim :: v) rest = .ok (some (f.name, v), 0) := by
  have hcut := Str.cutChar_append f.delim f.name v (hd f hf f hf)
  constructor
  · -- under `map toDefG` the search is that of `find_attached`
    simp only [lookupArgG_long, lookupPosixLongG, List.find?_map, Function.comp_def, PFlagG.toDefG, PFlag.toDef]
    rw [find_attached fs hd hn f hf v (·.mode == 0) (by simp [hm])]
    simp [PFlagG.toDefG, PFlag.toDef, hcut]
  · have hfind : findLongG fs (f.name ++ f.delim :: v) = some f :=
      find_attached fs hd hn f hf v (fun _ => true) rfl
    obtain ⟨body, hbody⟩ : ∃ body, f.name ++ f.delim :: v = c :: body := ⟨n ++ f.delim :: v, by rw [hname]; rfl⟩
    rw [hbody] at hfind hcut ⊢
    simp [parseLongG, hfind, hcut, hc.1, hc.2, hm, hv]

/-- the first two tests of `Flag.Consumes`: the flag takes a value and has no `NoOptDefVal` -/
def Waits (fd : FoundG) : Prop := fd.flag.takesValue = true ∧ fd.flag.noOptDef = false

theorem consumesG_any (fd : FoundG) (hw : Waits fd) (hn : fd.flag.nargs < 0) (w : Str) :
    consumesG fd w = !Str.hasPrefix w ['-'] := by
  simp [consumesG, hw.1, hw.2, hn]

section extent
variable (t : TTreeG) (c : Nat) (cs : TCmdG) (fs : FlagSetG)

theorem classifyG_any_takes (fd : FoundG) (hw : Waits fd) (hn : fd.flag.nargs < 0) (w : Str) (hwd : Str.hasPrefix w ['-'] = false)
    (st : LoopStateG) (hst : st.inFlag = some fd) :
    classifyG t c cs fs w st =
      .next { st with inArgs := st.inArgs ++ [w], inFlag := some { fd with args := fd.args ++ [w] } } := by
  have h2 := consumesG_any { fd with args := fd.args ++ [w] } hw hn []
  simp [classifyG, hst, consumesG_any fd hw hn, hwd, h2, Str.hasPrefix]

/-- **C01, `Nargs` < 0 (carapace's side).** The pending flag gets the run of following words that do not start
    with `-` ... -/
theorem loopG_any_run (fd : FoundG) (hw : Waits fd) (hn : fd.flag.nargs < 0) (ws rest : List Str)
    (hws : ∀ w ∈ ws, Str.hasPrefix w ['-'] = false) (st : LoopStateG) (hst : st.inFlag = some fd) :
    loopG t c cs fs (ws ++ rest) st =
      loopG t c cs fs rest { st with inArgs := st.inArgs ++ ws, inFlag := some { fd with args := fd.args ++ ws } } := by
  induction ws generalizing st fd with
  | nil => simp [← hst]
  | cons w ws ih =>
    simp only [List.cons_append, loopG]
    rw [classifyG_any_takes t c cs fs fd hw hn w (hws w (List.mem_cons_self ..)) st hst]
    simp [ih { fd with args := fd.args ++ [w] } hw hn (fun x hx => hws x (List.mem_cons_of_mem _ hx))
      { st with inArgs := st.inArgs ++ [w], inFlag := some { fd with args := fd.args ++ [w] } } rfl]

end extent

/-- ... and the next word, which does, is not the flag's -/
theorem consumesG_any_stops (fd : FoundG) (hw : Waits fd) (hn : fd.flag.nargs < 0) (w : Str) (hwd : Str.hasPrefix w ['-'] = true) :
    consumesG fd w = false := by
  simp [consumesG_any fd hw hn, hwd]

theorem takeNargs_neg (n : Int) (hn : n < 0) (ws : List Str) :
    takeNargs n ws = (ws.takeWhile (fun w => !Str.hasPrefix w ['-'])).length := by
  have h0 : n ≠ 0 := by omega
  have h1 : n ≠ 1 := by omega
  have h2 : ¬ n > 1 := by omega
  simp [takeNargs, h0, h1, h2, hn]

theorem takeNargs_run (n : Int) (hn : n < 0) (ws rest : List Str) (hws : ∀ x ∈ ws, Str.hasPrefix x ['-'] = false)
    (hr : ∀ w ∈ rest.head?, Str.hasPrefix w ['-'] = true) : takeNargs n (ws ++ rest) = ws.length := by
  rw [takeNargs_neg n hn, List.takeWhile_append_of_pos (by simpa using hws)]
  cases rest with
  | nil => simp
  | cons w rest => simp [List.takeWhile, hr w rfl]

/-- **C01, `Nargs` < 0 (the parser's side).** `parseNargs` takes the same run. -/
theorem takeNargs_any (n : Int) (hn : n < 0) (ws : List Str) (w : Str) (rest : List Str)
    (hws : ∀ x ∈ ws, Str.hasPrefix x ['-'] = false) (hwd : Str.hasPrefix w ['-'] = true) :
    takeNargs n (ws ++ w :: rest) = ws.length :=
  takeNargs_run n hn ws (w :: rest) hws (by simpa using hwd)

/-- at the end of the line every remaining word is the flag's -/
theorem takeNargs_any_all (n : Int) (hn : n < 0) (ws : List Str) (hws : ∀ x ∈ ws, Str.hasPrefix x ['-'] = false) :
    takeNargs n ws = if n == 0 || n == 1 then 1 else ws.length := by
  have h0 : n ≠ 0 := by omega
  have h1 : n ≠ 1 := by omega
  simpa [h0, h1] using takeNargs_run n hn ws [] hws (by simp)

/-- **C01, `Nargs` = n > 1.** carapace keeps the flag open while it has fewer than n words; the parser
    takes n words (all of them when fewer follow). -/
theorem consumesG_n (fd : FoundG) (hw : Waits fd) (n : Nat) (hn : fd.flag.nargs = (n : Int)) (h1 : 1 < n) (w : Str) :
    consumesG fd w = decide (fd.args.length < n) := by
  have hlt : ¬ (n : Int) < 0 := by omega
  have hgt : (1 : Int) < n := by omega
  -- what is left: a flag without words has fewer than `n`
  simp [consumesG, hw.1, hw.2, hn, hlt, hgt, ← List.length_eq_zero_iff]
  omega

theorem takeNargs_n (n : Nat) (h1 : 1 < n) (rest : List Str) :
    takeNargs (n : Int) rest = min n rest.length := by
  have h0 : ((n : Int) == 0 || (n : Int) == 1) = false := by simp; omega
  have hlt : ¬ ((n : Int) < 0) := by omega
  have hgt : (n : Int) > 1 := by omega
  simp only [takeNargs, h0, hlt, hgt, Int.ofNat_lt, Int.toNat_natCast, decide_true, Bool.true_and,
    decide_eq_true_eq, if_false, Bool.false_eq_true]
  split <;> omega

def exColor : PFlagG := { name := "color".toList, kind := .string, delim := ':' }
def exFiles : PFlagG := { name := "files".toList, short := some 'f', kind := .stringSlice, nargs := -1 }

/- the hypotheses can be met -/
example : lookupArgG ([exColor, exFiles].map PFlagG.toDefG) "--color:red".toList =
    some ⟨exColor.toDefG, "--color:".toList, ["red".toList]⟩ := by
  unfold exColor exFiles
  repeat rw [String.toList_ofList]
  rfl
example : parseG [exColor, exFiles] true ["--color:red".toList, "--files".toList, "a".toList, "b".toList, "-x".toList] =
    .error .unknownShort := by
  unfold exColor exFiles
  repeat rw [String.toList_ofList]
  rfl
example : parseG [exColor, exFiles] true ["--files".toList, "a".toList, "b".toList, "--color:red".toList, "p".toList] =
    .ok { args := ["p".toList], lenAtDash := none,
          sets := [("files".toList, "a,b".toList), ("color".toList, "red".toList)] } := by
  unfold exColor exFiles
  repeat rw [String.toList_ofList]
  rfl
/-- a first word that looks like a flag is not the flag's (fix 8fe9b47) -/
example : takeNargs (-1) ["-".toList, "x".toList] = 0 := by
  repeat rw [String.toList_ofList]
  rfl
/-- `-e=3` for a letter whose delimiter is `:`: the fork's parser panics (listed finding) -/
example : parseG [{ name := "level".toList, short := some 'e', delim := ':' }] true ["-e=3".toList] = .error .parserPanic := by
  repeat rw [String.toList_ofList]
  rfl

end Carapace.Props.C01Fork

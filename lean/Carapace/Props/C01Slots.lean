/-
  C01, stages 2-3 of DESIGN.md for a line that stays within one command: the slot the traverse model picks for
  the word under the cursor is the place where the program's own parser (specification Spec/Pflag.lean) puts a
  word typed there.  The traverse model is tied to traverse.go by exact comparison of the served slot on every
  generated line (op `parse`).
-/
import Carapace.Model.Traverse
import Carapace.Lemmas.Pflag

namespace Carapace.Props.C01
open Carapace.Model Carapace.Spec

/-- command `c` of the program is `cs`, an ordinary command that parses its flags -/
structure Stay (t : TTree) (c : Nat) (cs : TCmd) : Prop where
  cmd : t[c]? = some cs
  name1 : (cs.name == "help".toList) = false
  name2 : (cs.name == "_carapace".toList) = false
  parses : cs.noFlagParse = false

/-- none of the words names a sub-command of command `c`: the line stays within that command -/
def NoChild (t : TTree) (c : Nat) (ws : List Str) : Prop := ∀ w ∈ ws, childNamed t c w = none

/-- a program that consists of one command which parses its flags -/
structure Single (t : TTree) (cs : TCmd) : Prop where
  tree : t = #[cs]
  root : cs.parent = none
  name1 : (cs.name == "help".toList) = false
  name2 : (cs.name == "_carapace".toList) = false
  parses : cs.noFlagParse = false

theorem childNamed_single {t : TTree} {cs : TCmd} (h : Single t cs) (w : Str) : childNamed t 0 w = none := by
  unfold childNamed
  have ht := h.tree
  subst ht
  split
  · rfl
  · simp [h.root]

theorem Single.stay {t : TTree} {cs : TCmd} (h : Single t cs) : Stay t 0 cs :=
  ⟨by rw [h.tree]; rfl, h.name1, h.name2, h.parses⟩

theorem Single.noChild {t : TTree} {cs : TCmd} (h : Single t cs) (ws : List Str) : NoChild t 0 ws :=
  fun w _ => childNamed_single h w

theorem NoChild.cons {t : TTree} {c : Nat} {w : Str} {ws : List Str} :
    NoChild t c (w :: ws) ↔ childNamed t c w = none ∧ NoChild t c ws := List.forall_mem_cons

theorem NoChild.append {t : TTree} {c : Nat} {ws vs : List Str} :
    NoChild t c (ws ++ vs) ↔ NoChild t c ws ∧ NoChild t c vs := List.forall_mem_append

/-- a flag that waits for its value is the last of the words read (the third clause is used by no theorem) -/
def PendInv (fs : FlagSet) (inArgs : List Str) (fl : Option Found) : Prop :=
  ∀ fd, fl = some fd → consumes fd = true →
    ∃ ws0 a, inArgs = ws0 ++ [a] ∧ lookupArg fs a = some fd ∧ (a == "--".toList) = false

theorem classify_noChild {t : TTree} {c : Nat} (cs : TCmd) {arg : Str} (h : childNamed t c arg = none) (fs : FlagSet)
    (st : LoopState) :
    classify t c cs fs arg st =
      if st.inFlag.any consumes then .next { st with inArgs := st.inArgs ++ [arg], inFlag := none }
      else if arg == "--".toList then .dash
      else if !cs.noFlagParse && Str.hasPrefix arg ['-'] && (cs.interspersed || st.nPos == 0) then
        .next { st with inArgs := st.inArgs ++ [arg], inFlag := lookupArg fs arg }
      else .next { st with inArgs := st.inArgs ++ [arg], nPos := st.nPos + 1 } := by
  unfold classify
  cases hfl : st.inFlag with
  | none => simp only [h, Option.any_none, Bool.false_eq_true, if_false]
  | some fd =>
    cases hc : consumes fd with
    | false => simp only [h, hc, Option.any_some, Bool.false_eq_true, if_false]
    | true =>
      -- with the word as its value the flag waits no longer
      have : consumes { fd with args := fd.args ++ [arg] } = false := by simp [consumes]
      simp only [hc, this, Option.any_some, if_true, Bool.false_eq_true, if_false]

theorem loop_stay {t : TTree} {c : Nat} (cs : TCmd) (fs : FlagSet) {ws : List Str} (st : LoopState) (hnc : NoChild t c ws) :
    ∃ st' b, loop t c cs fs ws st = .done st' b ∧ st'.inArgs = st.inArgs ++ ws ∧
      (PendInv fs st.inArgs st.inFlag → PendInv fs st'.inArgs st'.inFlag) := by
  induction ws generalizing st with
  | nil => exact ⟨st, false, rfl, by simp, id⟩
  | cons arg rest ih =>
    obtain ⟨harg, hrest⟩ := NoChild.cons.mp hnc
    have next : ∀ st1 : LoopState, st1.inArgs = st.inArgs ++ [arg] → PendInv fs st1.inArgs st1.inFlag →
        ∃ st' b, loop t c cs fs rest st1 = .done st' b ∧ st'.inArgs = st.inArgs ++ arg :: rest ∧
          (PendInv fs st.inArgs st.inFlag → PendInv fs st'.inArgs st'.inFlag) := by
      intro st1 hi hp
      obtain ⟨st', b, hl, hin, hp'⟩ := ih st1 hrest
      exact ⟨st', b, hl, by simp [hin, hi], fun _ => hp' hp⟩
    have hcl := classify_noChild cs harg fs st
    rw [loop]
    by_cases hw : st.inFlag.any consumes = true
    · rw [hcl, if_pos hw]
      exact next _ rfl (fun _ hfd _ => by cases hfd)
    · have hnw : ∀ fd, st.inFlag = some fd → consumes fd = false := fun fd hfd => by simpa [hfd] using hw
      by_cases hd : (arg == "--".toList) = true
      · -- at the `--` nothing waits (it would have been taken as the value)
        rw [hcl, if_neg hw, if_pos hd]
        exact ⟨_, true, rfl, rfl, fun _ fd hfd hc => by rw [hnw fd hfd] at hc; cases hc⟩
      · rw [if_neg hw, if_neg hd] at hcl
        split at hcl <;> rw [hcl]
        · exact next _ rfl (fun fd hfd _ => ⟨_, _, rfl, hfd, by simpa using hd⟩)
        · exact next _ rfl (fun fd hfd hc => by rw [hnw fd hfd] at hc; cases hc)

theorem loop_stay_init {t : TTree} {c : Nat} (cs : TCmd) (fs : FlagSet) {ws : List Str} (hnc : NoChild t c ws) :
    ∃ st b, loop t c cs fs ws {} = .done st b ∧ st.inArgs = ws ∧ PendInv fs ws st.inFlag := by
  obtain ⟨st, b, hl, hin, hp⟩ := loop_stay cs fs {} hnc
  replace hin : st.inArgs = ws := by simpa using hin
  exact ⟨st, b, hl, hin, hin ▸ hp (fun _ e => by cases e)⟩

/-- the first two clauses of `loop_stay` -/
theorem loop_single {t : TTree} {c : Nat} {cs : TCmd} (fs : FlagSet) :
    ∀ (ws : List Str) (st : LoopState), NoChild t c ws →
      ∃ st' b, loop t c cs fs ws st = .done st' b ∧ st'.inArgs = st.inArgs ++ ws := by
  intro ws st hnc
  obtain ⟨st', b, hl, hin, -⟩ := loop_stay cs fs st hnc
  exact ⟨st', b, hl, hin⟩

theorem isSeries_false {w : Str} (hw : Str.hasPrefix w ['-'] = false) : isShorthandSeries w = false := by
  unfold isShorthandSeries
  split
  · simp [Str.hasPrefix] at hw
  · rfl

theorem seriesFix_plain {fs : FlagSet} {fo : Bool} {inArgs : List Str} {w : Str} (hw : isShorthandSeries w = false) :
    traverseSlot.seriesFix fs fo inArgs w = inArgs := by
  unfold traverseSlot.seriesFix
  simp [hw]

theorem flagOrPositional_plain {cs : TCmd} {fs : FlagSet} {c : Nat} {fo : Bool} {p : Pflag.Parsed} {w : Str}
    (hw : Str.hasPrefix w ['-'] = false) :
    traverseSlot.flagOrPositional cs fs c fo p w = .positional c p.args.length := by
  unfold traverseSlot.flagOrPositional
  simp [hw]

/-- what the look-up of the current word `w` can give (`n`: the number of positional arguments so far) -/
inductive LookupSlot (fs : FlagSet) (c : Nat) (w : Str) (n : Nat) : Slot → Prop
  | positional : LookupSlot fs c w n (.positional c n)
  | flagNames : LookupSlot fs c w n (.flagNames c)
  | boolValues {fd} : lookupArg fs w = some fd → LookupSlot fs c w n (.boolValues c fd.prefix_)
  | attached {fd} : lookupArg fs w = some fd →
      (fd.args ≠ [] ∨ Str.hasPrefix w ['-', '-'] = false ∧ fd.flag.noOptDef = false) →
      LookupSlot fs c w n (.flagValueAttached c fd.flag.name fd.prefix_)

theorem flagOrPositional_view {cs : TCmd} {fs : FlagSet} {c : Nat} {fo : Bool} {p : Pflag.Parsed} {w : Str} {s : Slot}
    (h : traverseSlot.flagOrPositional cs fs c fo p w = s) : LookupSlot fs c w p.args.length s := by
  subst h
  unfold traverseSlot.flagOrPositional
  split
  · split
    · rename_i fd hfd
      split
      · rename_i hne
        split
        · exact .boolValues hfd
        · exact .attached hfd (.inl (by simpa using hne))
      · split
        · rename_i hc
          simp only [Bool.and_eq_true, Bool.not_eq_true'] at hc
          exact .attached hfd (.inr ⟨hc.1.1, hc.1.2⟩)
        · exact .flagNames
    · exact .flagNames
  · exact .positional

/-- is the last flag word of the line still waiting for its value, in the traverse model's reading? -/
def pendingFlag (t : TTree) (c : Nat) (cs : TCmd) (ws : List Str) : Bool :=
  match loop t c cs ((flagsAt t (t.size + 1) c).map Pflag.PFlag.toDef) ws {} with
  | .done st _ => (match st.inFlag with | some fd => fd.args.isEmpty && consumes fd | none => false)
  | .descend .. => false

/-- the ways the slot for the current word `w` comes about when the words `ws` stay within command `c` (`pfs` its flags,
    `pend` its `pendingFlag`): the last word is a flag that waits and the parser is given the words before it (`waits..`),
    or the parser is given the (repaired) line and the slot comes from the look-up of `w` (`lookup..`); either way the
    parser rejects its words, or has met a `--`, or neither.  The slot is the index: `cases` keeps the ways that give
    the slot at hand. -/
inductive SlotFrom (c : Nat) (cs : TCmd) (pfs : Pflag.PFlags) (pend : Bool) (ws : List Str) (w : Str) : Slot → Prop
  | waitsMessage {ws0 a fd e} : ws = ws0 ++ [a] → lookupArg (pfs.map (·.toDef)) a = some fd → consumes fd = true →
      pend = true → Pflag.parse pfs cs.interspersed ws0 = .error e → SlotFrom c cs pfs pend ws w .message
  | waitsDash {ws0 a fd p n} : ws = ws0 ++ [a] → lookupArg (pfs.map (·.toDef)) a = some fd → consumes fd = true →
      pend = true → Pflag.parse pfs cs.interspersed ws0 = .ok p → p.lenAtDash = some n →
      SlotFrom c cs pfs pend ws w (.dash c (p.args.length - n))
  | waits {ws0 a fd p} : ws = ws0 ++ [a] → lookupArg (pfs.map (·.toDef)) a = some fd → consumes fd = true →
      pend = true → Pflag.parse pfs cs.interspersed ws0 = .ok p → p.lenAtDash = none →
      SlotFrom c cs pfs pend ws w (.flagValue c fd.flag.name)
  | lookupMessage {flagOk e} :
      Pflag.parse pfs cs.interspersed (traverseSlot.seriesFix (pfs.map (·.toDef)) flagOk ws w) = .error e →
      SlotFrom c cs pfs pend ws w .message
  | lookupDash {flagOk p n} :
      Pflag.parse pfs cs.interspersed (traverseSlot.seriesFix (pfs.map (·.toDef)) flagOk ws w) = .ok p →
      p.lenAtDash = some n → SlotFrom c cs pfs pend ws w (.dash c (p.args.length - n))
  | lookup {flagOk p s} :
      Pflag.parse pfs cs.interspersed (traverseSlot.seriesFix (pfs.map (·.toDef)) flagOk ws w) = .ok p →
      p.lenAtDash = none → traverseSlot.flagOrPositional cs (pfs.map (·.toDef)) c flagOk p w = s →
      SlotFrom c cs pfs pend ws w s

theorem traverseSlot_stay {t : TTree} {c : Nat} {cs : TCmd} (h : Stay t c cs) {fuel : Nat} {ws : List Str}
    (hnc : NoChild t c ws) {w : Str} {s : Slot} (hs : traverseSlot t (fuel + 1) c ws w = s) :
    SlotFrom c cs (flagsAt t (t.size + 1) c) (pendingFlag t c cs ws) ws w s := by
  subst hs
  obtain ⟨st, b, hl, hin, hp⟩ := loop_stay_init cs ((flagsAt t (t.size + 1) c).map (·.toDef)) hnc
  unfold traverseSlot pendingFlag
  simp only [h.cmd, h.name1, h.name2, h.parses, hl, hin, Bool.false_eq_true, Bool.or_self, if_false]
  cases hfl : st.inFlag with
  | none =>
    simp only []
    split
    · exact .lookupMessage ‹_›
    · split
      · exact .lookupDash ‹_› ‹_›
      · exact .lookup ‹_› ‹_› rfl
  | some fd =>
    cases hc : consumes fd with
    | false =>
      simp only [hc, Bool.and_false, Bool.false_eq_true, if_false]
      split
      · exact .lookupMessage ‹_›
      · split
        · exact .lookupDash ‹_› ‹_›
        · exact .lookup ‹_› ‹_› rfl
    | true =>
      obtain ⟨ws0, a, hws, hla, -⟩ := hp fd hfl hc
      simp only [consumes_args hc, hc, hws, List.isEmpty_nil, Bool.and_self, if_true, List.dropLast_concat]
      split
      · exact .waitsMessage rfl hla hc rfl ‹_›
      · split
        · exact .waitsDash rfl hla hc rfl ‹_› ‹_›
        · exact .waits rfl hla hc rfl ‹_› ‹_›

/-- **C01 for a positional slot (any command, as long as the earlier words stay within it).**  If the traverse
    model completes positional argument `k`, then any word typed there that does not look like a flag is
    accepted by the program's parser - given that it accepts the line so far - and becomes its positional
    argument number `k`. -/
theorem C01_positional_lands {t : TTree} {c : Nat} {cs : TCmd} (h : Stay t c cs) (fuel : Nat) (ws : List Str) (hnc : NoChild t c ws) (w : Str)
    (hw : Str.hasPrefix w ['-'] = false) (k : Nat)
    (hs : traverseSlot t (fuel + 1) c ws w = .positional c k) :
    ∀ w', Pflag.flagLike w' = false →
      ∃ p', Pflag.parse (flagsAt t (t.size + 1) c) cs.interspersed (ws ++ [w']) = .ok p' ∧
            p'.args[k]? = some w' ∧ p'.lenAtDash = none := by
  intro w' hw'
  cases traverseSlot_stay h hnc hs with
  | lookup hp hd hk =>
    -- the parser was given the earlier words; `k` is the number of its positional arguments
    rw [seriesFix_plain (isSeries_false hw)] at hp
    rw [flagOrPositional_plain hw] at hk
    cases hk
    exact ⟨_, Pflag.parse_snoc hp (.inl hw'), by simp, hd⟩

/-- **C01 for a slot after `--` (same scope).**  If the traverse model completes argument `k` after the
    dash, then any word typed there - flag-like or not - is accepted and becomes the `k`-th argument after
    the `--`.  `hnp`: no flag is waiting for its value (with one waiting the model hands the line without
    that flag word to the parser; that this cannot coincide with a `--` there is not proved here). -/
theorem C01_dash_lands {t : TTree} {c : Nat} {cs : TCmd} (h : Stay t c cs) (fuel : Nat) (ws : List Str) (hnc : NoChild t c ws) (w : Str)
    (hw : Str.hasPrefix w ['-'] = false) (k : Nat)
    (hs : traverseSlot t (fuel + 1) c ws w = .dash c k)
    (hnp : pendingFlag t c cs ws = false) :
    ∀ w', ∃ p' n, Pflag.parse (flagsAt t (t.size + 1) c) cs.interspersed (ws ++ [w']) = .ok p' ∧
            p'.lenAtDash = some n ∧ p'.args[n + k]? = some w' := by
  intro w'
  cases traverseSlot_stay h hnc hs with
  | waitsDash _ _ _ hpf => rw [hnp] at hpf; cases hpf
  | lookup _ _ hk => rw [flagOrPositional_plain hw] at hk; cases hk
  | @lookupDash _ p n hp hd =>
    rw [seriesFix_plain (isSeries_false hw)] at hp
    have hle : n ≤ p.args.length := Pflag.parse_lenAtDash_le hp hd
    refine ⟨_, n, Pflag.parse_snoc hp (.inr (by simp [hd])), hd, ?_⟩
    simp [show n + (p.args.length - n) = p.args.length by omega]

/-- non-vacuity -/
example :
    let cs : TCmd := { name := "prog".toList, flags := [({ name := "name".toList, short := some 'n' }, false), ({ name := "verbose".toList, short := some 'v', kind := .bool }, false)] }
    traverseSlot #[cs] 3 0 ["-v".toList, "--".toList, "a".toList] [] = .dash 0 1 ∧
    traverseSlot #[cs] 3 0 ["-v".toList, "x".toList] [] = .positional 0 1 ∧
    traverseSlot #[cs] 3 0 ["-vn".toList] [] = .flagValue 0 "name".toList := by
  repeat rw [String.toList_ofList]
  decide

end Carapace.Props.C01

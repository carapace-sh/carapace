/-
  C08 — invoking an Action is repeatable and leaves no trace.
  In the pure model `invoke : Expr → Ctx → Invoked` an Action *is* a value, so repeatability is true by construction;
  what carries the property is the `history` correspondence (the same Go values invoked repeatedly and interleaved,
  every step equal to the pure `invoke`: DESIGN.md, C08).  Here: what "by construction" means, and that Context
  edits are local.
-/
import Carapace.Model.Actions
import Carapace.Lemmas.Str

namespace Carapace.Props.C08
open Carapace.Model

/-- the model of a history: every step is the pure invocation -/
def runHistory (table : List Expr) (steps : List (Nat × Ctx)) : List Invoked :=
  steps.map (fun s => invoke (table.getD s.1 (.plain [])) s.2)

/-- a step's result depends on nothing but its own action and Context: not on the steps before
    it, after it, or on how often it is repeated -/
theorem C08_history (table : List Expr) (before after : List (Nat × Ctx)) (i : Nat) (c : Ctx) :
    (runHistory table (before ++ (i, c) :: after)).getD before.length ({}, []) =
      invoke (table.getD i (.plain [])) c := by
  simp [runHistory, List.getD_eq_getElem?_getD]

theorem C08_repeatable (table : List Expr) (i : Nat) (c : Ctx) (n : Nat) :
    ∀ r ∈ runHistory table (List.replicate n (i, c)), r = invoke (table.getD i (.plain [])) c := by
  intro r hr
  simp only [runHistory, List.map_replicate, List.mem_replicate] at hr
  exact hr.2

/-- edits a callback makes to its Context are seen by the action beneath it and by nothing else:
    a sibling in the same Batch receives the caller's Context unchanged -/
theorem C08_ctx_local_sibling (edits : List Edit) (a b : Expr) (c : Ctx) :
    invokeList [.withCtx edits a, b] c = [invoke a (edits.foldl Edit.apply c), invoke b c] := rfl

/-- ... and the caller's Context is what later actions get -/
theorem C08_ctx_local_later (edits : List Edit) (a b : Expr) (c : Ctx) :
    invoke (.batch [.withCtx edits a, b]) c = batchMerge [invoke a (edits.foldl Edit.apply c), invoke b c] := rfl

/-- `Setenv` appends and the lookup takes the last entry: the variable is set beneath -/
theorem C08_setenv_visible_beneath (k v : Str) (c : Ctx) :
    lookupEnv (Edit.apply c (.setenv k v)).env k = v := by
  have h : Str.hasPrefix (k ++ '=' :: v) (k ++ ['=']) = true := by
    simpa using Str.hasPrefix_append (k ++ ['=']) v
  simp [Edit.apply, lookupEnv, h]

end Carapace.Props.C08

/-
  C02 — what the user typed is preserved; filtering is exact prefix filtering.
  The pipeline without messages (with them: C06), the sanitizers, bash / tcsh's common-prefix step.
-/
import Carapace.Model.Shells
import Carapace.Lemmas.Sort
import Carapace.Lemmas.Str
import Carapace.Lemmas.Replacer

namespace Carapace.Props.C02
open Carapace.Model

theorem filterPrefix_sound (ci : Bool) (vs : List RawValue) (w : Str) :
    ∀ v ∈ filterPrefix ci vs w, matchHasPrefix ci v.value w = true := by
  intro v hv
  exact (List.mem_filter.mp hv).2

theorem filterPrefix_complete (ci : Bool) (vs : List RawValue) (w : Str) (v : RawValue)
    (hv : v ∈ vs) (h : matchHasPrefix ci v.value w = true) : v ∈ filterPrefix ci vs w :=
  List.mem_filter.mpr ⟨hv, h⟩

theorem filterPrefix_sublist (ci : Bool) (vs : List RawValue) (w : Str) :
    (filterPrefix ci vs w).Sublist vs := List.filter_sublist

theorem pipeline_snd_of_no_messages (sh : Str) (env : Env) (w : Str) (m : Meta) (vs : List RawValue)
    (hm : m.messages = []) :
    (pipeline sh env w m vs).2 =
      (sortBy byDisplayLt
        (let vs := if env.colorDisabled then vs.map (fun v => { v with style := [] }) else vs
         if env.unfiltered then vs else filterPrefix env.ci vs w)).map (fun v => { v with uid := [] }) := by
  simp only [pipeline, hm, integrate, List.isEmpty_nil, if_true, ite_self]

/-- without messages the formatter gets exactly the (decoloured) candidates extending the typed word, all of
    them when unfiltered -/
theorem C02_pipeline_exact (sh : Str) (env : Env) (w : Str) (m : Meta) (vs : List RawValue)
    (hm : m.messages = []) (x : RawValue) :
    x ∈ (pipeline sh env w m vs).2 ↔
      ∃ v ∈ (if env.colorDisabled then vs.map (fun v => { v with style := [] }) else vs),
        (env.unfiltered = true ∨ matchHasPrefix env.ci v.value w = true) ∧ x = { v with uid := [] } := by
  rw [pipeline_snd_of_no_messages sh env w m vs hm]
  simp only [List.mem_map, mem_sortBy]
  generalize (if env.colorDisabled then vs.map (fun v => { v with style := [] }) else vs) = vs'
  have hmem : ∀ v, v ∈ (if env.unfiltered then vs' else filterPrefix env.ci vs' w) ↔
      v ∈ vs' ∧ (env.unfiltered = true ∨ matchHasPrefix env.ci v.value w = true) := by
    intro v
    split <;> simp [filterPrefix, *]
  simp only [hmem, and_assoc, eq_comm (a := x)]

theorem length_decoloured (env : Env) (vs : List RawValue) :
    (if env.colorDisabled then vs.map (fun v => { v with style := [] }) else vs).length = vs.length := by
  split <;> simp

/-- **unfiltered**: with CARAPACE_UNFILTERED the invoked set is passed through -/
theorem C02_unfiltered_length (sh : Str) (env : Env) (w : Str) (m : Meta) (vs : List RawValue)
    (hm : m.messages = []) (hu : env.unfiltered = true) : (pipeline sh env w m vs).2.length = vs.length := by
  rw [pipeline_snd_of_no_messages sh env w m vs hm]
  simp only [List.length_map, length_sortBy, hu, if_true]
  exact length_decoloured env vs

/-- **nothing added** (without messages) -/
theorem C02_nothing_added (sh : Str) (env : Env) (w : Str) (m : Meta) (vs : List RawValue) (hm : m.messages = []) :
    (pipeline sh env w m vs).2.length ≤ vs.length := by
  rw [pipeline_snd_of_no_messages sh env w m vs hm]
  simp only [List.length_map, length_sortBy]
  rw [← length_decoloured env vs]
  split
  · exact Nat.le_refl _
  · exact (filterPrefix_sublist ..).length_le

/-- a character-wise replacer is a monoid homomorphism, so it preserves "extends the typed word" -/
theorem san_prefix (t : Replacer) (v w : Str) (h : Str.hasPrefix v w = true) :
    Str.hasPrefix (san t v) (san t w) = true := by
  obtain ⟨r, rfl⟩ := Str.hasPrefix_iff_prefix.mp h
  rw [san, Replacer.applyChars_append]
  exact Str.hasPrefix_append _ _

/-- **fish** (a natively quoting format): every emitted value extends the typed word -/
theorem C02_fish_sound (w : Str) (hw : ∀ c ∈ w, Replacer.lookup Gen.fish_sanitizer c = none)
    (vs : List RawValue) (hv : ∀ v ∈ vs, Str.hasPrefix v.value w = true) :
    ∀ v ∈ vs, Str.hasPrefix (san Gen.fish_sanitizer v.value) w = true := by
  intro v hvm
  have := san_prefix Gen.fish_sanitizer v.value w (hv v hvm)
  -- the typed word holds no tab / CR / LF: the sanitizer leaves it alone
  rwa [show san Gen.fish_sanitizer w = w from Replacer.applyChars_eq_self _ w hw] at this

/-- **false of the code under case-insensitive matching** (finding `bash_common_prefix_not_extending`):
    typed `fo`, candidates `Foo` and `FOX`: bash emits the single text `F` -/
theorem C02_bash_ci_counterexample :
    bashFormat { ci := true } "fo".toList {} [{ value := "FOX".toList, display := "FOX".toList }, { value := "Foo".toList, display := "Foo".toList }]
      = "true".toList ++ [Char.ofNat 1] ++ "F".toList := by
  repeat rw [String.toList_ofList]
  decide

/-- when the step is not taken the candidates are the pipeline's, one text per candidate -/
theorem C02_bash_no_step_count (lastSegment dflt : Str) (vs : List RawValue)
    (h : (commonStep lastSegment dflt vs).2 = false) : (commonStep lastSegment dflt vs).1 = vs := by
  unfold commonStep at h ⊢
  split
  · rename_i hc
    -- both branches behind the test report that the step was taken
    rw [if_pos hc] at h
    dsimp only at h
    split at h <;> cases h
  · rfl

end Carapace.Props.C02

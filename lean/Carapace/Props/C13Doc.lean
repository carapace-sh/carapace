/-
  C13 — the whole export document round-trips: what `parseExport` reads from the text `marshalExport` writes is
  the document that was written.  The round trips are the `Reads` statements of `C15Doc.lean` with nothing cut off.
-/
import Carapace.Props.C15Doc
import Carapace.Gen.CharSets
import Carapace.Lemmas.Sort

namespace Carapace.Props.C13
open Carapace.Model Carapace.Props.C15

/- The model was written for these json tags, this field order, these `omitempty` marks, the sort by value
   before `json.Marshal`, and `json.Unmarshal` on the reading side.  The lists are regenerated from /repo on every
   run: a change of any of them breaks these obligations. -/

theorem rawValue_tags : Gen.json_tags_common_RawValue =
    ["Value value".toList, "Display display".toList, "Description description,omitempty".toList,
     "Style style,omitempty".toList, "Tag tag,omitempty".toList, "Uid uid,omitempty".toList] := by
  repeat rw [String.toList_ofList]
  rfl
theorem meta_tags : Gen.json_tags_common_Meta =
    ["Messages messages".toList, "Nospace nospace".toList, "Usage usage".toList] := by
  repeat rw [String.toList_ofList]
  rfl
theorem export_tags : Gen.json_tags_export_Export =
    ["Version version".toList, "embedded:common.Meta".toList, "Values values".toList] := by
  repeat rw [String.toList_ofList]
  rfl
theorem export_wire_tags : Gen.json_tags_export_anon1 = Gen.json_tags_export_Export := rfl
theorem marshal_calls : Gen.export_MarshalJSON_calls =
    ["sort.Sort".toList, "common.ByValue".toList, "json.Marshal".toList, "version".toList] := by
  repeat rw [String.toList_ofList]
  rfl
theorem import_calls : Gen.carapace_ActionImport_calls =
    ["ActionCallback".toList, "json.Unmarshal".toList, "ActionMessage".toList, "err.Error".toList] := by
  repeat rw [String.toList_ofList]
  rfl

/-- **C13 (one candidate).** All six fields, the optional ones empty or not, are read back unchanged,
    whatever follows. -/
theorem parseRawValue_encode (v : RawValue) (rest : Str) :
    parseRawValue (marshalRawValue v ++ rest) = some (v, rest) :=
  (parseRawValue_reads v).full rest

theorem parseValues_encode (vs : Option (List RawValue)) (rest : Str) :
    parseValues ((match vs with
        | none => "null".toList
        | some vs => jsonArray ((sortBy (fun a b => Str.lt a.value b.value) vs).map marshalRawValue)) ++ rest)
      = some (wireValues vs, rest) := by
  have := (parseValues_reads vs).full rest
  cases vs <;> exact this

/-- **C13 (document round trip).** For any version string, messages, no-space characters, usage text
    and any list of candidates (or none): decoding the exported text yields exactly what was exported,
    the candidates in wire order, whatever characters the fields contain. -/
theorem C13_document_roundtrip (version : Str) (m : Meta) (vs : Option (List RawValue)) :
    parseExport (marshalExport version m vs)
      = some { version := version, messages := m.messages, nospace := m.nospace, usage := m.usage,
               values := wireValues vs } := by
  simpa using (parseExport_reads version m vs).full []

/-- a document cut anywhere before its last character is rejected -/
example : ((List.range ((marshalExport "v".toList {} (some [{ value := "a".toList, display := "a".toList }])).length)).all
    (fun n => (parseExport ((marshalExport "v".toList {} (some [{ value := "a".toList, display := "a".toList }])).take n)).isNone)) = true := by
  rw [List.all_eq_true]
  intro n hn
  rw [C15_prefix_rejected _ _ _ n (List.mem_range.mp hn)]
  rfl

/-- non-vacuity: a document with awkward text in every field, optional fields present and absent -/
example : parseExport (marshalExport "v1".toList
    { messages := ["a\"b".toList, "}]".toList], nospace := "*".toList, usage := "<u>".toList }
    (some [{ value := "b\",\"display\":\"x".toList, display := "}".toList, tag := "t".toList },
           { value := "a".toList, display := "".toList, description := "d\n".toList, uid := "u".toList }]))
  = some { version := "v1".toList, messages := ["a\"b".toList, "}]".toList], nospace := "*".toList, usage := "<u>".toList,
           values := some [{ value := "a".toList, display := "".toList, description := "d\n".toList, uid := "u".toList },
                           { value := "b\",\"display\":\"x".toList, display := "}".toList, tag := "t".toList }] } := by
  rw [C13_document_roundtrip]; rfl

/-- **nothing lost, nothing added, nothing merged**: the reading side holds a permutation of the exported candidates
    and the exported messages, no-space characters and usage - for the `export` wire format this is also C04's
    "one intact record per candidate" and the well-formedness half of C18 -/
theorem C13_candidates_perm (version : Str) (m : Meta) (vs : List RawValue) :
    ∃ d, parseExport (marshalExport version m (some vs)) = some d ∧
      (∃ ws, d.values = some ws ∧ ws.Perm vs) ∧ d.messages = m.messages ∧ d.nospace = m.nospace ∧ d.usage = m.usage := by
  refine ⟨_, C13_document_roundtrip version m (some vs), ⟨_, rfl, ?_⟩, rfl, rfl, rfl⟩
  exact sortBy_perm _ vs

/-- **different completions never share a document** -/
theorem C13_export_injective (v v' : Str) (m m' : Meta) (vs vs' : Option (List RawValue))
    (h : marshalExport v m vs = marshalExport v' m' vs') :
    v = v' ∧ m.messages = m'.messages ∧ m.nospace = m'.nospace ∧ m.usage = m'.usage ∧ wireValues vs = wireValues vs' := by
  -- the two documents are read back from the same text
  have h2 := C13_document_roundtrip v' m' vs'
  rw [← h, C13_document_roundtrip] at h2
  exact ExportDoc.mk.inj (Option.some.inj h2)

end Carapace.Props.C13

/-
  C01 — completion targets the slot the program's own parser will fill.
  Stage 1 of DESIGN.md (C01): carapace's own reading of a flag word (`LookupArg` + `Consumes`)
  agrees with the program's parser (here the word-level specification `pflagShort`) on *whether the
  next word is that flag's value* - the decision that selects the "flag value" slot.
-/
import Carapace.Lemmas.Pflag

namespace Carapace.Props.C01
open Carapace.Model

/-- flags that take no value always have a default (bool: "true", count: "+1") -/
def WellFormed (fs : FlagSet) : Prop := ∀ f ∈ fs, f.takesValue = false → f.noOptDef = true

/-- **stage 1 (shorthand chains).** For a POSIX flag set in which no flag uses `=` as its shorthand
    (the hypothesis the proof forces: `-a=` with a bool `a` makes pflag look up the shorthand `=`,
    carapace treats `=` as the delimiter), and a chain the parser does not reject: carapace expects
    the next word to be the value of flag `f` exactly when the parser will take it as `f`'s value. -/
theorem C01_short_agrees (fs : FlagSet) (hwf : WellFormed fs) (heq : lookupShort fs '=' = none) :
    ∀ (cs pre : Str), pflagShort fs cs ≠ .err →
      ((lookupPosixShort fs pre cs).bind (fun fd => if consumes fd then some fd.flag else none)) =
        (match pflagShort fs cs with | .pending f => some f | _ => none) := by
  intro cs pre hne
  -- cases 3-7: the last letter (with / without default); `-c=value`; a letter with a default, more behind it; `-cvalue`
  fun_induction pflagShort fs cs generalizing pre with
  | case1 => simp [lookupPosixShort]
  | case2 => exact absurd rfl hne
  | case3 c f hl hn => simp [lookupPosixShort, hl, consumes, hn]
  | case4 c f hl hn =>
    -- the last letter takes a value (a flag that takes none has a default): both sides wait for it
    have ht : f.takesValue = true := by
      cases htv : f.takesValue with
      | true => rfl
      | false => exact absurd (hwf f (lookupShort_some hl).1 htv) hn
    simp [lookupPosixShort, hl, consumes, hn, ht]
  | case5 c f hl d r2 h => simp [lookupPosixShort, hl, h.1, h.2, consumes]
  | case6 c f hl d r2 h hn ih =>
    have hd : d ≠ '=' := by
      -- after `-c=` the parser goes on with the letter `=`: rejected, excluded by the hypothesis
      rintro rfl
      have hr : r2 = [] := by simpa using h
      simp [hr, pflagShort, heq] at hne
    rw [lookupPosixShort_step hl]
    simp only [hd, hn, if_false, if_true]
    exact ih (pre ++ [c]) hne
  | case7 c f hl d r2 h hn =>
    -- `-cvalue`, or `-c=` for a letter that takes a value
    rw [lookupPosixShort_step hl]
    by_cases hd : d = '='
    · simp [hd, consumes]
    · simp [hd, hn, consumes]

/-- the hypothesis is needed: with a bool flag `a` and a flag whose shorthand is `=`, the word `-a=`
    is accepted by the parser (both flags set) while carapace reads `=` as the delimiter of `a` -/
theorem C01_eq_shorthand_counterexample :
    let fs : FlagSet := [{ name := "all".toList, short := some 'a', noOptDef := true, takesValue := false },
                         { name := "eq".toList, short := some '=', noOptDef := false, takesValue := true }]
    pflagShort fs "a=".toList = .pending { name := "eq".toList, short := some '=', noOptDef := false, takesValue := true } ∧
    ((lookupPosixShort fs ['-'] "a=".toList).map (fun fd => (fd.flag.name, fd.args))) = some ("all".toList, [[]]) := by
  repeat rw [String.toList_ofList]
  decide

/-- non-vacuity: the chain `-vn` is pending on `n` -/
example :
    let fs : FlagSet := [{ name := "verbose".toList, short := some 'v', noOptDef := true, takesValue := false },
                         { name := "name".toList, short := some 'n' }]
    WellFormed fs ∧ lookupShort fs '=' = none ∧ pflagShort fs "vn".toList = .pending { name := "name".toList, short := some 'n' } := by
  repeat rw [String.toList_ofList]
  exact ⟨by unfold WellFormed; decide, by decide, by decide⟩

/-- long form: `--name=value` carries its value, `--name` of a value flag waits for the next word -/
theorem C01_long_attached (fs : FlagSet) (n v : Str) (f : FlagDef) (hn : '=' ∉ n) (hl : lookupLong fs n = some f) :
    lookupPosixLong fs (n ++ '=' :: v) = some ⟨f, "--".toList ++ n ++ ['='], [v]⟩ ∧
    lookupPosixLong fs n = some ⟨f, "--".toList ++ n, []⟩ := by
  have h1 : Str.cutChar '=' (n ++ '=' :: v) = (n, some v) := Str.cutChar_append '=' n v hn
  have h2 : Str.cutChar '=' n = (n, none) := Str.cutChar_no '=' n hn
  simp [lookupPosixLong, h1, h2, hl]

end Carapace.Props.C01

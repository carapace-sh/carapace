/-
  C15 — the on-disk cache never serves a partially written entry.
  For the Action cache the in-place protocol is saved by re-parsing: a proper prefix of an export
  document does not decode (`hprefix`: validated on encoding/json's decoder at every byte offset by
  the check, proved for the decoder model in `C15Doc.lean`).  For the raw byte cache the statement is false.
-/
import Carapace.Model.WriteProto

namespace Carapace.Props.C15
open Carapace.Model

/-- the code writes an entry with a single `os.WriteFile` (read from the source on every run) -/
theorem write_is_in_place : Gen.cache_Write_calls = ["os.WriteFile".toList] := by
  repeat rw [String.toList_ofList]
  rfl

/-- ... and reads it with `json.Unmarshal` of the whole file -/
theorem loadE_decodes_whole_file : Gen.cache_LoadE_calls = ["Load".toList, "json.Unmarshal".toList] := by
  repeat rw [String.toList_ofList]
  rfl

/-- **C15 (Action cache).** Whatever the previous entry was, and wherever the write of `doc` stops -
    before the open, after any number of bytes, or not at all - a reader gets nothing usable (and
    recomputes), or the complete previous entry, or the complete new entry. -/
theorem C15_action_cache {R} (decode : Str → Option R) (doc : Str) (r : R)
    (hdoc : decode doc = some r)
    (hprefix : ∀ k, k < doc.length → decode (doc.take k) = none)
    (old : FileState) (stop : Option Nat) :
    readAction decode (inPlaceWrite old doc stop) = none ∨
    readAction decode (inPlaceWrite old doc stop) = readAction decode old ∨
    readAction decode (inPlaceWrite old doc stop) = some r := by
  cases stop with
  | none => exact Or.inr (Or.inl rfl)
  | some k =>
    by_cases hk : k < doc.length
    · left; simp [inPlaceWrite, readAction, hprefix k hk]
    · right; right
      have : doc.take k = doc := List.take_of_length_le (by omega)
      simp [inPlaceWrite, readAction, this, hdoc]

/-- **the raw cache is false of the code**: a write of `hello world` that stops after 5 bytes leaves
    `hello`, which the next reader is handed as the cached value (finding `raw_cache_partial_entry`) -/
theorem C15_raw_cache_counterexample :
    readRaw (inPlaceWrite none "hello world".toList (some 5)) = some "hello".toList := by
  repeat rw [String.toList_ofList]
  rfl

/-- with a temp file and an atomic rename the raw cache would satisfy the property -/
theorem C15_raw_cache_rename (old : FileState) (content : Str) (renamed : Bool) :
    readRaw (renameWrite old content renamed) = old ∨ readRaw (renameWrite old content renamed) = some content := by
  cases renamed <;> simp [renameWrite, readRaw]

/-- non-vacuity of `C15_action_cache`: a decoder that accepts exactly the complete document -/
example : ∃ (decode : Str → Option Nat) (doc : Str),
    decode doc = some 1 ∧ ∀ k, k < doc.length → decode (doc.take k) = none :=
  ⟨fun s => if s = "{}".toList then some 1 else none, "{}".toList, by decide, by
    intro k hk
    have : k = 0 ∨ k = 1 := by simp at hk; omega
    rcases this with rfl | rfl <;> decide⟩

end Carapace.Props.C15

/-
  C14 — a cached Action equals a fresh one within its lifetime, call site and keys.
  Refinement: the file-based cache (model of action.go / internal/cache) behaves, for every history
  of invocations, elapsed times and corruptions, exactly like an abstract store keyed by
  (call site, key tuple) - provided the encoding of key tuples into file names is injective on the
  tuples that occur (the hypothesis the proof forces; false in general: listed finding).
-/
import Carapace.Model.Cache

namespace Carapace.Props.C14
open Carapace.Model

section
variable {α β} [DecidableEq α] {l : List (α × β)} {k k0 : α} {v v0 : β}

theorem lookupF_cons : lookupF ((k0, v0) :: l) k = if k0 = k then some v0 else lookupF l k := rfl

theorem updateF_cons : updateF ((k0, v0) :: l) k v = if k0 = k then (k, v) :: l else (k0, v0) :: updateF l k v := rfl

theorem eraseF_cons : eraseF ((k0, v0) :: l) k = if k0 = k then eraseF l k else (k0, v0) :: eraseF l k := by
  by_cases h : k0 = k <;> simp [eraseF, h]

theorem lookupF_updateF (k' : α) : lookupF (updateF l k v) k' = if k = k' then some v else lookupF l k' := by
  induction l with
  | nil => rfl
  | cons p l ih =>
    obtain ⟨k0, v0⟩ := p
    by_cases h0 : k0 = k
    · subst h0
      by_cases h1 : k0 = k' <;> simp [updateF_cons, lookupF_cons, h1]
    · by_cases h1 : k0 = k'
      · subst h1; simp [updateF_cons, lookupF_cons, h0, Ne.symm h0]
      · simp [updateF_cons, lookupF_cons, h0, h1, ih]

theorem lookupF_eraseF (k' : α) : lookupF (eraseF l k) k' = if k = k' then none else lookupF l k' := by
  induction l with
  | nil => simp [eraseF, lookupF]
  | cons p l ih =>
    obtain ⟨k0, v0⟩ := p
    by_cases h0 : k0 = k
    · subst h0
      by_cases h1 : k0 = k'
      · subst h1; simp [eraseF_cons, ih]
      · simp [eraseF_cons, lookupF_cons, h1, ih]
    · by_cases h1 : k0 = k'
      · subst h1; simp [eraseF_cons, lookupF_cons, h0, Ne.symm h0]
      · simp [eraseF_cons, lookupF_cons, h0, h1, ih]

end

/-- what a cache file means to the store: a readable entry, or nothing -/
def absF : Option CFile → Option SEntry
  | some ⟨some r, t⟩ => some ⟨r, t⟩
  | _ => none

/-- key tuples occurring in an operation -/
def opKeys : COp → List Keys
  | .invoke _ kb ka _ _ => [kb, ka]
  | .advance _ => []
  | .corrupt _ ks => [ks]
  | .block _ ks => [ks]

/-- the encoding of key tuples into file names is injective on `U` -/
def KeyEncodingInjective (U : List Keys) : Prop :=
  ∀ a ∈ U, ∀ b ∈ U, keysName a = keysName b → a = b

theorem path_eq_iff {U : List Keys} (hinj : KeyEncodingInjective U) {site site' : Str} {a b : Keys}
    (ha : a ∈ U) (hb : b ∈ U) : cachePath site a = cachePath site' b ↔ (site, a) = (site', b) := by
  simp only [cachePath, Prod.mk.injEq]
  constructor
  · rintro ⟨h1, h2⟩; exact ⟨h1, hinj a ha b hb h2⟩
  · rintro ⟨h1, h2⟩; exact ⟨h1, by rw [h2]⟩

/-- the files, read through `absF`, are the store -/
def FilesSim (U : List Keys) (files : List ((Str × Str) × CFile)) (store : List ((Str × Keys) × SEntry)) : Prop :=
  ∀ site, ∀ ks ∈ U, absF (lookupF files (cachePath site ks)) = lookupF store (site, ks)

theorem filesSim_set {U : List Keys} (hinj : KeyEncodingInjective U) {files files' : List ((Str × Str) × CFile)}
    {store store' : List ((Str × Keys) × SEntry)} (h : FilesSim U files store) {site : Str} {ks : Keys} (hks : ks ∈ U)
    {f : Option CFile} {e : Option SEntry}
    (hf : ∀ p, lookupF files' p = if cachePath site ks = p then f else lookupF files p)
    (he : ∀ k, lookupF store' k = if (site, ks) = k then e else lookupF store k)
    (hfe : absF f = e) : FilesSim U files' store' := by
  intro site' ks' hks'
  rw [hf, he, apply_ite absF, hfe, h site' ks' hks']
  simp only [path_eq_iff hinj hks hks']

/-- related states are the same record up to the two keyed components -/
inductive Sim (U : List Keys) : CState → SState → Prop
  | mk {files store now counter blocked sblocked} (hf : FilesSim U files store)
      (hb : ∀ site, ∀ ks ∈ U, cachePath site ks ∈ blocked ↔ (site, ks) ∈ sblocked) :
      Sim U ⟨files, now, counter, blocked⟩ ⟨store, now, counter, sblocked⟩

theorem Sim.init (U : List Keys) : Sim U {} {} := ⟨fun _ _ _ => rfl, fun _ _ _ => by simp⟩

theorem sim_load {U : List Keys} {c : CState} {s : SState} (h : Sim U c s) (site : Str) {kb : Keys} (hkb : kb ∈ U)
    (timeout : Int) : cacheLoad c (cachePath site kb) timeout = storeHit s site kb timeout := by
  obtain ⟨hf, -⟩ := h
  unfold cacheLoad storeHit
  rw [← hf site kb hkb]
  rcases lookupF _ (cachePath site kb) with _ | ⟨_ | r, t⟩ <;> simp [absF]

theorem sim_step {U : List Keys} (hinj : KeyEncodingInjective U) {c : CState} {s : SState} {op : COp}
    (hsim : Sim U c s) (hop : ∀ k ∈ opKeys op, k ∈ U) :
    (cacheStep c op).2 = (storeStep s op).2 ∧ Sim U (cacheStep c op).1 (storeStep s op).1 := by
  obtain @⟨files, store, now, counter, blocked, sblocked, hf, hb⟩ := hsim
  cases op with
  | advance dt => exact ⟨rfl, hf, hb⟩
  | block site ks =>
    have hks : ks ∈ U := hop ks (by simp [opKeys])
    refine ⟨rfl, filesSim_set hinj hf hks lookupF_eraseF lookupF_eraseF rfl, ?_⟩
    intro site' ks' hks'
    simp only [List.mem_cons, path_eq_iff hinj hks' hks, hb site' ks' hks']
  | corrupt site ks =>
    have hks : ks ∈ U := hop ks (by simp [opKeys])
    simp only [cacheStep, storeStep]
    cases hl : lookupF files (cachePath site ks) with
    | none =>
      -- nothing to corrupt, and nothing in the store either
      have hf' : ∀ p, lookupF files p = if cachePath site ks = p then none else lookupF files p := by
        intro p; split
        · subst p; exact hl
        · rfl
      exact ⟨rfl, filesSim_set hinj hf hks hf' lookupF_eraseF rfl, hb⟩
    | some f =>
      exact ⟨rfl, filesSim_set hinj hf hks lookupF_updateF lookupF_eraseF (by rfl), hb⟩
  | invoke site kb ka timeout msg =>
    have hka : ka ∈ U := hop ka (by simp [opKeys])
    simp only [cacheStep, storeStep, sim_load (.mk hf hb) site (hop kb (by simp [opKeys])) timeout]
    cases storeHit _ site kb timeout with
    | some r => exact ⟨rfl, hf, hb⟩
    | none =>
      -- a miss
      simp only [← hb site ka hka]
      split
      · exact ⟨rfl, hf, hb⟩
      · split
        · exact ⟨rfl, hf, hb⟩
        · exact ⟨rfl, filesSim_set hinj hf hka lookupF_updateF lookupF_updateF rfl, hb⟩

/-- **C14 (refinement).** What the keyed store returns: the result of the most recent real invocation under the
    same call site and key values, not older than the timeout; a real invocation happens iff there is no such
    entry; results with messages are not stored; a corrupt entry is absent. -/
theorem C14_refines (U : List Keys) (hinj : KeyEncodingInjective U) (ops : List COp)
    (hops : ∀ op ∈ ops, ∀ k ∈ opKeys op, k ∈ U) : runCache ops = runStore ops := by
  unfold runCache runStore
  -- the two folds keep: related states, the same outputs so far
  refine (List.foldl_rel (r := fun (a : CState × _) (b : SState × _) => Sim U a.1 b.1 ∧ a.2 = b.2) ⟨Sim.init U, rfl⟩ ?_).2
  intro op hop ⟨c, acc⟩ ⟨s, _⟩ ⟨hsim, rfl⟩
  obtain ⟨ho, hs'⟩ := sim_step hinj hsim (hops op hop)
  exact ⟨hs', congrArg (acc ++ [·]) ho⟩

/-- never stale: a hit is never older than the timeout -/
theorem C14_never_stale (s : CState) (p : Str × Str) (timeout : Int) (r : Nat) (ht : timeout ≥ 0)
    (h : cacheLoad s p timeout = some r) : ∃ f, lookupF s.files p = some f ∧ s.now ≤ f.mtime + timeout := by
  unfold cacheLoad at h
  split at h
  · cases h
  · next f hl =>
    refine ⟨f, hl, ?_⟩
    split at h
    · cases h
    · next hc => exact Int.not_lt.1 fun e => hc ⟨ht, e⟩

/-- **the encoding is not injective** (finding `cache_key_encoding`): `key.String("a","b")` and
    `key.String("a\nb")` name the same file, and so do two keys `a`,`b` and one key `a\x01b` -/
theorem C14_key_collision :
    keysName [["a".toList, "b".toList]] = keysName [["a\nb".toList]] ∧
    keysName [["a".toList], ["b".toList]] = keysName [[['a', Char.ofNat 1, 'b']]] := by decide

/-- non-vacuity: key tuples without the separator characters are encoded injectively -/
example : KeyEncodingInjective [[["a".toList]], [["b".toList]], [["a".toList], ["b".toList]]] := by
  unfold KeyEncodingInjective; decide

end Carapace.Props.C14

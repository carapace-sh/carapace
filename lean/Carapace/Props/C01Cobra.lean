/-
  C01 / C07, behind a path of sub-command names carapace and cobra are in the same command.
  `Spec/Cobra.lean` specifies cobra's `Find` (tied to the real package by op `cobrafind`): a line that begins with
  a path of sub-command names is dispatched to the command the path leads to, with the remaining words, and stays
  there when no remaining word names a child.  (Names *behind* other words: the listed finding `descent_heuristics`.)
-/
import Carapace.Spec.Cobra
import Carapace.Props.C01Descent
import Carapace.Props.C01Flag

namespace Carapace.Props.C01
open Carapace.Model Carapace.Spec

theorem takesNext_word (fs : Pflag.PFlags) (s : Str) (h : Str.hasPrefix s ['-'] = false) : Cobra.takesNext fs s = false := by
  -- a word that starts with `--` starts with `-`
  have h2 : Str.hasPrefix s ['-', '-'] = false := by
    rw [Bool.eq_false_iff] at h ⊢
    exact fun hh => h (Str.hasPrefix_of_prefix hh ⟨['-'], rfl⟩)
  simp [Cobra.takesNext, h, h2]

theorem stripFlags_word (fs : Pflag.PFlags) (s : Str) (rest : List Str) (hne : s ≠ []) (h : Str.hasPrefix s ['-'] = false) :
    Cobra.stripFlags fs (s :: rest) = s :: Cobra.stripFlags fs rest := by
  simp [Cobra.stripFlags, Cobra.stripFlagsAux, not_dashdash s h, takesNext_word fs s h, hne, h]

theorem argsMinusFirstX_head (fs : Pflag.PFlags) (s : Str) (rest : List Str) (h : Str.hasPrefix s ['-'] = false) :
    Cobra.argsMinusFirstX fs s (s :: rest) = rest := by
  simp [Cobra.argsMinusFirstX, Cobra.argsMinusFirstXAux, not_dashdash s h, takesNext_word fs s h, h]

theorem find_descend (t : TTree) (fuel c k : Nat) (w : Str) (ws : List Str) (hne : w ≠ [])
    (hk : childNamed t c w = some k) : Cobra.find t (fuel + 1) c (w :: ws) = Cobra.find t fuel k ws := by
  have hnf := childNamed_not_flaglike hk
  simp only [Cobra.find, stripFlags_word _ w ws hne hnf, hk, argsMinusFirstX_head _ w ws hnf]

theorem stripFlagsAux_sub (fs : Pflag.PFlags) : ∀ (ws : List Str) (skip : Bool), ∀ w ∈ Cobra.stripFlagsAux fs ws skip, w ∈ ws := by
  intro ws skip w hw
  -- every case: empty, or the result for the rest with or without the head
  fun_induction Cobra.stripFlagsAux fs ws skip with
  | case1 | case3 | case4 => cases hw
  | case2 s rest ih => exact List.mem_cons_of_mem _ (ih hw)
  | case5 s rest hdd htake hlen ih => exact List.mem_cons_of_mem _ (ih hw)
  | case6 s rest hdd htake hword ih => exact List.mem_cons.mpr ((List.mem_cons.mp hw).imp_right ih)
  | case7 s rest hdd htake hword ih => exact List.mem_cons_of_mem _ (ih hw)

theorem find_stays (t : TTree) (fuel c : Nat) (ws : List Str) (hnc : NoChild t c ws) :
    Cobra.find t fuel c ws = (c, ws) := by
  cases fuel with
  | zero => rfl
  | succ fuel =>
    simp only [Cobra.find]
    cases hs : Cobra.stripFlags (flagsAt t (t.size + 1) c) ws with
    | nil => rfl
    | cons next r =>
      have hmem : next ∈ ws := stripFlagsAux_sub _ ws false next (by unfold Cobra.stripFlags at hs; rw [hs]; simp)
      simp [hnc next hmem]

/-- a path of sub-command names, none of them empty -/
def PathWordsNonEmpty (path : List Str) : Prop := ∀ w ∈ path, w ≠ []

theorem find_path {t : TTree} {c k : Nat} {path : List Str} (hp : Path t c path k) (hne : PathWordsNonEmpty path)
    (fuel : Nat) (ws : List Str) :
    Cobra.find t (fuel + path.length) c (path ++ ws) = Cobra.find t fuel k ws := by
  induction hp with
  | nil c => rfl
  | @cons c0 k0 k1 cs0 w0 ws0 hst hk _ ih =>
    rw [List.length_cons, ← Nat.add_assoc, List.cons_append, find_descend t _ c0 k0 w0 _ (hne w0 (by simp)) hk]
    exact ih (fun w hw => hne w (List.mem_cons_of_mem _ hw))

/-- **behind a path of sub-command names carapace and cobra are in the same command with the same words**: cobra
    dispatches `path ++ ws` to the command `k` the path leads to and hands it `ws`; the traverse model computes
    the slot as that of `ws` in `k`. -/
theorem C01_path_same_command {t : TTree} {c k : Nat} {path : List Str} (hp : Path t c path k) (hne : PathWordsNonEmpty path)
    (fuel : Nat) (ws : List Str) (hnc : NoChild t k ws) (value : Str) :
    Cobra.find t (fuel + 1 + path.length) c (path ++ ws) = (k, ws) ∧
    traverseSlot t (fuel + 1 + path.length) c (path ++ ws) value = traverseSlot t (fuel + 1) k ws value := by
  refine ⟨?_, traverseSlot_path hp (fuel + 1) ws value⟩
  rw [find_path hp hne (fuel + 1) ws]
  exact find_stays t (fuel + 1) k ws hnc

/-- **C01, flag-value slot, behind a path of sub-command names**: cobra hands `ws ++ [v]` to the command `k` the path
    leads to; if the traverse model completes the value of flag `name` there, `k`'s parser assigns `v` to that flag. -/
theorem C01_flag_value_lands_after_path {t : TTree} {c k : Nat} {cs : TCmd} {path : List Str} (hp : Path t c path k)
    (hne : PathWordsNonEmpty path) (h : Stay t k cs) (hi : cs.interspersed = true)
    (hn : NamesOk (flagsAt t (t.size + 1) k)) (fuel : Nat) (ws : List Str) (hnc : NoChild t k ws) (w name : Str)
    (hs : traverseSlot t (fuel + 1 + path.length) c (path ++ ws) w = .flagValue k name) :
    ∀ v, childNamed t k v = none → (∀ f ∈ flagsAt t (t.size + 1) k, f.name = name → Pflag.valueOk f v = true) →
      Cobra.find t (fuel + 1 + path.length) c (path ++ (ws ++ [v])) = (k, ws ++ [v]) ∧
      ∃ p', Pflag.parse (flagsAt t (t.size + 1) k) true (ws ++ [v]) = .ok p' ∧ p'.sets.getLast? = some (name, v) := by
  intro v hv hok
  rw [traverseSlot_path hp] at hs
  refine ⟨?_, C01_flag_value_lands h hi hn fuel ws hnc w name hs v hok⟩
  rw [find_path hp hne (fuel + 1) (ws ++ [v])]
  exact find_stays t _ k _ (NoChild.append.mpr ⟨hnc, List.forall_mem_singleton.mpr hv⟩)

/-- **C07, sub-command names**: a name (or alias) of a child of the command a path of names leads to, typed there, is
    dispatched by cobra to that very child; the words that follow are handed on unchanged as long as none of them
    names a grandchild -/
theorem C07_subcommand_dispatches {t : TTree} {c k k' : Nat} {path : List Str} (hp : Path t c path k) (hne : PathWordsNonEmpty path)
    (name : Str) (hname : name ≠ []) (hk : childNamed t k name = some k') (fuel : Nat) (ws : List Str) (hnc : NoChild t k' ws) :
    Cobra.find t (fuel + 2 + path.length) c (path ++ name :: ws) = (k', ws) := by
  rw [find_path hp hne (fuel + 2) (name :: ws), find_descend t (fuel + 1) k k' name ws hname hk]
  exact find_stays t (fuel + 1) k' ws hnc

/-- non-vacuity -/
example :
    let root : TCmd := { name := "root".toList }
    let sub : TCmd := { name := "sub".toList, parent := some 0, flags := [({ name := "flag".toList }, false)] }
    childNamed #[root, sub] 0 "sub".toList = some 1 ∧
    Cobra.find #[root, sub] 5 0 ["sub".toList, "--flag".toList, "x".toList] = (1, ["--flag".toList, "x".toList]) := by
  repeat rw [String.toList_ofList]
  decide

end Carapace.Props.C01

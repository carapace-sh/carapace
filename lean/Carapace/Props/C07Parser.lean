/-
  C07 at the level of the program's flag parser: a flag name offered in the flag-name slot of an
  accepted interspersed line, appended (with a value if it needs one), is accepted by the parser
  specification and sets that very flag.  (cobra's group validation is a later layer: `C07_mutex`.)
-/
import Carapace.Props.C01Flag

namespace Carapace.Props.C07
open Carapace.Spec Carapace.Props.C01

/-- `--name` for a flag that needs no value (bool, count, optional argument) -/
theorem C07_long_noarg_accepted {pfs : Pflag.PFlags} (hn : NamesOk pfs) {ws : List Str} {p : Pflag.Parsed}
    (hp : Pflag.parse pfs true ws = .ok p) (hd : p.lenAtDash = none)
    {f : Pflag.PFlag} (hf : Pflag.findLong pfs f.name = some f) {dv : Str} (hdv : f.noOptDefVal = some dv) :
    Pflag.parse pfs true (ws ++ ["--".toList ++ f.name]) = .ok { p with sets := p.sets ++ [(f.name, dv)] } := by
  rw [Pflag.parse_append_open hp hd (.inl rfl)]
  simp [Pflag.parseArgs, Pflag.wordKind_long (hn f (Pflag.findLong_some hf).1).1, parseLong_name hn hf, hdv]

/-- `--name value` for a flag that needs a value -/
theorem C07_long_value_accepted {pfs : Pflag.PFlags} (hn : NamesOk pfs) {ws : List Str} {p : Pflag.Parsed}
    (hp : Pflag.parse pfs true ws = .ok p) (hd : p.lenAtDash = none)
    {f : Pflag.PFlag} (hf : Pflag.findLong pfs f.name = some f) (hdv : f.noOptDefVal = none)
    (v : Str) (hv : Pflag.valueOk f v = true) :
    Pflag.parse pfs true (ws ++ ["--".toList ++ f.name, v]) = .ok { p with sets := p.sets ++ [(f.name, v)] } := by
  rw [Pflag.parse_append_open hp hd (.inl rfl)]
  simp [Pflag.parseArgs, Pflag.wordKind_long (hn f (Pflag.findLong_some hf).1).1, parseLong_name hn hf, hdv, hv]

end Carapace.Props.C07

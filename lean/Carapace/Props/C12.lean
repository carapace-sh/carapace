/-
  C12 — modifiers change exactly the aspect they document.
  Frame theorems over the pure model `invoke` (Model/Actions.lean), which is bound to the real library by exact
  comparison on random expressions (ops `invoke`, `history`): for every modifier of `Expr` except `list` and
  `multiParts` (of which a counterexample shows that it drops the inner meta), and for `withCtx`.
  `invoke` is structurally recursive, so its clauses hold by `rfl`; most frame theorems are a clause read off.
-/
import Carapace.Model.Actions
import Carapace.Lemmas.Utf8
import Carapace.Lemmas.Str

namespace Carapace.Props.C12
open Carapace.Model

variable (e : Expr) (c : Ctx)

/-- `Filter` removes precisely the listed values and touches nothing else -/
theorem C12_filter (xs : List Str) :
    invoke (.filter xs e) c = ((invoke e c).1, (invoke e c).2.filter (fun v => !xs.elem v.value)) := rfl

theorem C12_retain (xs : List Str) :
    invoke (.retain xs e) c = ((invoke e c).1, (invoke e c).2.filter (fun v => xs.elem v.value)) := rfl

theorem C12_filterArgs : invoke (.filterArgs e) c = invoke (.filter c.args e) c := rfl
theorem C12_filterParts : invoke (.filterParts e) c = invoke (.filter c.parts e) c := rfl

/-- `Suffix` alters only the inserted text -/
theorem C12_suffix (s : Str) :
    (invoke (.sfx s e) c).1 = (invoke e c).1 ∧
    (invoke (.sfx s e) c).2 = (invoke e c).2.map (fun v => { v with value := v.value ++ s }) := ⟨rfl, rfl⟩

theorem C12_suffix_display (s : Str) :
    (invoke (.sfx s e) c).2.map (·.display) = (invoke e c).2.map (·.display) := by
  rw [(C12_suffix e c s).2, List.map_map]
  rfl

theorem invoke_pfx (p : Str) :
    invoke (.pfx p e) c =
      if matchHasPrefix c.ci c.value p then
        mapValues (fun v => { v with value := p ++ v.value }) (invoke e { c with value := matchTrimPrefix c.ci c.value p })
      else if matchHasPrefix c.ci p c.value then
        mapValues (fun v => { v with value := p ++ v.value }) (invoke e { c with value := [] })
      else ({}, []) := rfl

/-- **the Prefix law**: `p+x` is completed as `p` + completion of `x` (case sensitive matching) -/
theorem C12_prefix_law (p x : Str) (hci : c.ci = false) :
    invoke (.pfx p e) { c with value := p ++ x } =
      mapValues (fun v => { v with value := p ++ v.value }) (invoke e { c with value := x }) := by
  have h1 : matchHasPrefix false (p ++ x) p = true := Str.hasPrefix_append p x
  simp only [invoke_pfx, hci, h1, if_true, matchTrimPrefix, Utf8.dropBytesLossy_append]

theorem C12_prefix_incompatible (p : Str)
    (h1 : matchHasPrefix c.ci c.value p = false) (h2 : matchHasPrefix c.ci p c.value = false) :
    invoke (.pfx p e) c = ({}, []) := by
  rw [invoke_pfx, h1, h2]
  rfl

theorem C12_prefix_display (p : Str) (h : matchHasPrefix c.ci c.value p = true) :
    (invoke (.pfx p e) c).2.map (·.display) =
      (invoke e { c with value := matchTrimPrefix c.ci c.value p }).2.map (·.display) := by
  rw [invoke_pfx, if_pos h, mapValues, List.map_map]
  rfl

theorem C12_style (s : Str) :
    invoke (.style s e) c = ((invoke e c).1, (invoke e c).2.map (fun v => { v with style := s })) := rfl

theorem C12_tag (t : Str) :
    invoke (.tag t e) c = ((invoke e c).1, (invoke e c).2.map (fun v => { v with tag := t })) := rfl

/-- `Usage`: the outer usage overrides the inner one; an empty usage changes nothing -/
theorem C12_usage (u : Str) :
    (invoke (.usage u e) c).2 = (invoke e c).2 ∧
    (invoke (.usage u e) c).1.usage = (if u.isEmpty then (invoke e c).1.usage else u) ∧
    (invoke (.usage u e) c).1.messages = (invoke e c).1.messages ∧
    (invoke (.usage u e) c).1.nospace = (invoke e c).1.nospace := ⟨rfl, rfl, rfl, rfl⟩

theorem C12_usage_outer_overrides (u1 u2 : Str) (h : u2 ≠ []) :
    (invoke (.usage u2 (.usage u1 e)) c).1.usage = u2 := by
  rw [(C12_usage _ c u2).2.1, if_neg (by simpa using h)]

/-- `NoSpace` affects only the no-space set -/
theorem C12_nospace (chars : Str) :
    (invoke (.nospace chars e) c).2 = (invoke e c).2 ∧
    (invoke (.nospace chars e) c).1.usage = (invoke e c).1.usage ∧
    (invoke (.nospace chars e) c).1.messages = (invoke e c).1.messages := ⟨rfl, rfl, rfl⟩

/-- `Suppress` removes the matching messages, and only those -/
theorem C12_suppress (lit : Str) :
    (invoke (.suppress lit e) c).2 = (invoke e c).2 ∧
    (invoke (.suppress lit e) c).1.messages = (invoke e c).1.messages.filter (fun m => !Str.contains m lit) ∧
    (invoke (.suppress lit e) c).1.nospace = (invoke e c).1.nospace ∧
    (invoke (.suppress lit e) c).1.usage = (invoke e c).1.usage := ⟨rfl, rfl, rfl, rfl⟩

theorem C12_unless (b : Bool) : invoke (.unless b e) c = if b then ({}, []) else invoke e c := rfl

/-- `TagF` / `StyleF`: the function is applied to the candidate's own value -/
theorem C12_tagF : invoke (.tagF e) c = ((invoke e c).1, (invoke e c).2.map (fun v => { v with tag := tagOfValue v.value })) := rfl

theorem C12_styleF : invoke (.styleF e) c = ((invoke e c).1, (invoke e c).2.map (fun v => { v with style := styleOfValue v.value })) := rfl

theorem C12_unlessF (t : Test) : invoke (.unlessF t e) c = if t.eval c then ({}, []) else invoke e c := rfl

theorem C12_shift (n : Nat) : invoke (.shift n e) c = invoke e { c with args := c.args.drop n } := by
  have : ¬ ((n : Int) < 0) := by omega
  exact if_neg this

theorem C12_withCtx (edits : List Edit) : invoke (.withCtx edits e) c = invoke e (edits.foldl Edit.apply c) := rfl

theorem multiPartsNWith_snd (sep : Str) (n : Int) (k : Ctx → Invoked) :
    (multiPartsNWith sep n c k).2 =
      (k (multiPartsNCtx sep n c).2).2.map (fun v => { v with value := (multiPartsNCtx sep n c).1 ++ v.value }) := rfl

/-- ActionMultiPartsN: every candidate is the completed parts followed by the callback's candidate -/
theorem C12_multiPartsN_frame (sep : Str) (n : Int) (h0 : n ≠ 0) (h1 : n ≠ 1) :
    (invoke (.multiPartsN sep n e) c).2 =
      (invoke e (multiPartsNCtx sep n c).2).2.map (fun v => { v with value := (multiPartsNCtx sep n c).1 ++ v.value }) := by
  have : invoke (.multiPartsN sep n e) c = multiPartsNWith sep n c (fun c' => invoke e c') :=
    (if_neg h0).trans (if_neg h1)
  rw [this, multiPartsNWith_snd]

/-- the completed parts of a non-empty separator are rebuilt from the typed text itself -/
theorem C12_multiPartsN_parts (sep : Str) (n : Int) (hs : sep ≠ []) (h : (splitN c.value sep n).length > 1) :
    (multiPartsNCtx sep n c).1 = Str.join sep (splitN c.value sep n).dropLast ++ sep ∧
    (multiPartsNCtx sep n c).2.parts = (splitN c.value sep n).dropLast := by
  simp [multiPartsNCtx, hs, h]

/-- `UniqueList` never offers an item that is already one of the completed parts -/
theorem C12_uniqueList (div : Str) :
    ∀ v ∈ (invoke (.uniqueList div e) c).2,
      ∃ w ∈ (invoke e (multiPartsNCtx div (-1) c).2).2,
        w.value ∉ (multiPartsNCtx div (-1) c).2.parts ∧ v.value = (multiPartsNCtx div (-1) c).1 ++ w.value := by
  intro v hv
  -- the clause of `uniqueList` is `multiPartsNWith` around the callback's values without the parts
  rw [show (invoke (.uniqueList div e) c).2 = _ from multiPartsNWith_snd c div (-1) _] at hv
  obtain ⟨w, hw, rfl⟩ := List.mem_map.mp hv
  obtain ⟨hw, hnot⟩ := List.mem_filter.mp hw
  exact ⟨w, hw, by simpa using hnot, rfl⟩

/-- **false of the code**: `MultiParts` builds a fresh Action and drops the inner usage,
    no-space set and messages (finding `multiparts_drops_meta`) -/
theorem C12_multiParts_counterexample :
    (invoke (.multiParts [['/']] (.usage "u".toList (.message "boom".toList))) {}).1 = { nospace := ['/'] } := by
  decide

end Carapace.Props.C12

/-
  C09 / C19 — the functions of the library that start goroutines, create channels or select are the two the models
  are about: `parallelize` (batch.go: one goroutine per member writing its own slot, a WaitGroup as the only
  synchronisation) and `Action.Timeout` (action.go: one goroutine, one buffered channel, one select).  The inventory
  is regenerated from /repo on every run (`Gen/GoStmts.lean`, with a digest of each function body); a goroutine
  started anywhere else, or a change inside these two, breaks `C09_goroutines_covered`, and the check then searches
  with the race detector and the schedule-sensitive scenarios.
-/
import Carapace.Gen.GoStmts
import Carapace.Props.C09GoSites

namespace Carapace.Props.C09

theorem C09_goroutines_covered : Gen.goStmts = expectedGoStmts := rfl

theorem C09_goroutines_where : expectedGoStmts.map (·.1) =
    ["action.go Action.Timeout: chan go select", "batch.go parallelize: go"] := rfl

end Carapace.Props.C09

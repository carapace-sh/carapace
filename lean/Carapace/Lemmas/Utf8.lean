/-
  The byte view of `Basic/Utf8.lean`: one character's encoding is Lean's, hence prefix free; `commonLen`,
  `byteTake`, `byteDrop` on texts that begin with whole characters.
-/
import Carapace.Basic.Utf8
namespace Carapace.Utf8

/-- the model's encoder is Lean's `String.utf8EncodeChar`, the bytes taken as numbers -/
theorem utf8EncodeChar_eq_map (c : Char) : String.utf8EncodeChar c = (encodeChar c).map UInt8.ofNat := by
  -- code points end below 0x110000, so the fourth digit to base 64 is below 8
  have hv : c.val.toNat < 262144 * 8 := c.valid.elim (Nat.lt_trans · (by decide)) (Nat.lt_trans ·.2 (by decide))
  simp only [String.utf8EncodeChar, encodeChar, Char.toNat, Nat.lt_add_one_iff]
  generalize c.val.toNat = n at hv
  -- Lean reduces the leading digit modulo its range, where it lies already, and adds the marks on the right
  by_cases h1 : n ≤ 127
  · simp only [if_pos h1, List.map]
  by_cases h2 : n ≤ 2047
  · have : n / 64 < 32 := Nat.div_lt_of_lt_mul (Nat.lt_succ_of_le h2)
    simp only [if_neg h1, if_pos h2, List.map, Nat.mod_eq_of_lt this, Nat.add_comm]
  by_cases h3 : n ≤ 65535
  · have : n / 4096 < 16 := Nat.div_lt_of_lt_mul (Nat.lt_succ_of_le h3)
    simp only [if_neg h1, if_neg h2, if_pos h3, List.map, Nat.mod_eq_of_lt this, Nat.add_comm]
  · have : n / 262144 < 8 := Nat.div_lt_of_lt_mul hv
    simp only [if_neg h1, if_neg h2, if_neg h3, List.map, Nat.mod_eq_of_lt this, Nat.add_comm]

theorem encodeChar_length_pos (c : Char) : 0 < (encodeChar c).length := by
  rw [← List.length_map (f := UInt8.ofNat), ← utf8EncodeChar_eq_map, String.length_utf8EncodeChar]
  exact c.utf8Size_pos

/-- UTF-8 is decoded from the front, so the code is prefix free: Lean's decoder reads `c` off the bytes of `d` -/
theorem eq_of_encodeChar_prefix {c d : Char} (h : encodeChar c <+: encodeChar d) : c = d := by
  obtain ⟨t, ht⟩ := h.map UInt8.ofNat
  rw [← utf8EncodeChar_eq_map, ← utf8EncodeChar_eq_map] at ht
  have := ByteArray.utf8DecodeChar?_utf8EncodeChar_append (b := t.toByteArray) (c := c)
  rw [← List.toByteArray_append, ht, ← ByteArray.append_empty (b := List.toByteArray _),
    ByteArray.utf8DecodeChar?_utf8EncodeChar_append] at this
  exact Option.some.inj this.symm

theorem encode_cons (c : Char) (s : Str) : encode (c :: s) = encodeChar c ++ encode s := by
  simp [encode, List.flatMap_cons]

theorem byteLen_cons (c : Char) (s : Str) : byteLen (c :: s) = (encodeChar c).length + byteLen s := by
  simp [byteLen, encode_cons]

theorem commonLen_comm (a b : List Nat) : commonLen a b = commonLen b a := by
  induction a generalizing b with
  | nil => cases b <;> rfl
  | cons x a ih =>
    cases b with
    | nil => rfl
    | cons y b => simp only [commonLen, ih b, eq_comm (a := x)]

theorem prefix_of_commonLen_eq {a b : List Nat} (h : commonLen a b = a.length) : a <+: b := by
  fun_induction commonLen a b with
  | case1 s x t ih => exact (List.prefix_cons_inj x).mpr (ih (Nat.succ.inj h))
  | case2 => cases h
  | case3 a =>
    rw [List.length_eq_zero_iff.mp h.symm]
    exact List.nil_prefix

theorem commonLen_append_same (p x y : List Nat) : commonLen (p ++ x) (p ++ y) = p.length + commonLen x y := by
  induction p with
  | nil => simp
  | cons a p ih =>
    simp only [List.cons_append, commonLen, if_true, ih, List.length_cons]
    omega

theorem commonLen_append_lt (p q x y : List Nat) (h1 : commonLen p q < p.length) (h2 : commonLen p q < q.length) :
    commonLen (p ++ x) (q ++ y) = commonLen p q := by
  fun_induction commonLen p q with
  | case1 s a t ih =>
    simp only [List.length_cons, Nat.add_lt_add_iff_right] at h1 h2
    simp only [List.cons_append, commonLen, if_true, ih h1 h2]
  | case2 a s b t hab => simp only [List.cons_append, commonLen, if_neg hab]
  | case3 p q h =>
    obtain ⟨a, s, rfl⟩ := List.exists_cons_of_length_pos h1
    obtain ⟨b, t, rfl⟩ := List.exists_cons_of_length_pos h2
    exact (h a s b t rfl rfl).elim

theorem byteTake_add_cons (c : Char) (s : Str) (m : Nat) :
    byteTake ((encodeChar c).length + m) (c :: s) = (c :: (byteTake m s).1, (byteTake m s).2) := by
  have hpos := encodeChar_length_pos c
  rw [byteTake]
  · simp
  · omega

theorem byteDrop_add_cons (c : Char) (s : Str) (m : Nat) :
    byteDrop ((encodeChar c).length + m) (c :: s) = byteDrop m s := by
  have hpos := encodeChar_length_pos c
  rw [byteDrop]
  · simp
  · omega

theorem byteDrop_append (p x : Str) : byteDrop (byteLen p) (p ++ x) = (x, 0) := by
  induction p with
  | nil => simp [byteLen, encode, byteDrop]
  | cons d p ih => rw [byteLen_cons, List.cons_append, byteDrop_add_cons, ih]

theorem dropBytesLossy_append (p x : Str) : dropBytesLossy (byteLen p) (p ++ x) = x := by
  simp [dropBytesLossy, byteDrop_append]

end Carapace.Utf8

/-
  C01 for the flag-value slot of a non-interspersed command (flags are parsed up to the first positional only).
-/
import Carapace.Props.C01Flag

namespace Carapace.Props.C01
open Carapace.Model Carapace.Spec

theorem parseArgs_append_nopos {fs : Pflag.PFlags} (tail : List Str) (ht : tail ≠ []) :
    ∀ (ws : List Str) (skip : Bool) (p q : Pflag.Parsed),
      (skip = true → ws ≠ []) →
      Pflag.parseArgs fs false ws skip p = .ok q → q.lenAtDash = none → q.args = [] →
      Pflag.parseArgs fs false (ws ++ tail) skip p = Pflag.parseArgs fs false tail false q := by
  intro ws skip p q hskip h hq hqa
  exact Pflag.parseArgs_append_open tail hskip h hq (.inr hqa)

/-- **C01 for the flag-value slot of a command that stops parsing flags at the first positional.** As
    `C01_flag_value_lands`, given that the parser has met no positional in front of the flag word (carapace's and
    the parser's count of positionals can differ - the listed finding `lone_dash_or_empty_word`). -/
theorem C01_flag_value_lands_noninterspersed {t : TTree} {c : Nat} {cs : TCmd} (h : Stay t c cs) (hi : cs.interspersed = false)
    (hn : NamesOk (flagsAt t (t.size + 1) c)) (fuel : Nat) (ws : List Str) (hnc : NoChild t c ws) (w name : Str)
    (hs : traverseSlot t (fuel + 1) c ws w = .flagValue c name)
    (hpos : ∀ p, Pflag.parse (flagsAt t (t.size + 1) c) false ws.dropLast = .ok p → p.args = []) :
    ∀ v, (∀ f ∈ flagsAt t (t.size + 1) c, f.name = name → Pflag.valueOk f v = true) →
      ∃ p', Pflag.parse (flagsAt t (t.size + 1) c) false (ws ++ [v]) = .ok p' ∧ p'.sets.getLast? = some (name, v) :=
  flag_value_lands h hi hn hnc hs fun p hp => .inr (hpos p hp)

/-- non-vacuity -/
example :
    let cs : TCmd := { name := "prog".toList, interspersed := false, flags := [({ name := "name".toList, short := some 'n' }, false)] }
    traverseSlot #[cs] 3 0 ["--name".toList] "val".toList = .flagValue 0 "name".toList ∧
    Pflag.parse (flagsAt #[cs] 2 0) false ([] : List Str) = .ok {} := by
  repeat rw [String.toList_ofList]
  constructor
  · decide
  · rfl

end Carapace.Props.C01

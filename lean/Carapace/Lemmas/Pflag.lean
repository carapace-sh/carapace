/- Lemmas about the parser specification Spec/Pflag.lean and about the look-up of Model/PflagFork.lean, in particular
   on the flag set `pfs.map toDef` in terms of `pfs`; beside the look-up equations those of Model/ForkG.lean. -/
import Carapace.Spec.Pflag
import Carapace.Model.ForkG
import Carapace.Lemmas.Str

namespace Carapace.Spec.Pflag

/-- a word the parser takes for a flag or for the `--` terminator -/
def flagLike : Str → Bool
  | '-' :: _ :: _ => true
  | _ => false

theorem findLong_some {pfs : PFlags} {n : Str} {f : PFlag} (h : findLong pfs n = some f) : f ∈ pfs ∧ f.name = n :=
  ⟨List.mem_of_find?_eq_some h, by simpa using List.find?_some h⟩

theorem findShort_some {pfs : PFlags} {c : Char} {f : PFlag} (h : findShort pfs c = some f) :
    f ∈ pfs ∧ f.short = some c :=
  ⟨List.mem_of_find?_eq_some h, by simpa using List.find?_some h⟩

theorem eqValue_none {r : Str} (h : r.head? ≠ some '=') : eqValue r = none := by
  rw [eqValue]
  rintro d r2 rfl
  exact h rfl

theorem eqValue_some {s v : Str} (h : eqValue s = some v) : s = '=' :: v := by
  unfold eqValue at h
  split at h <;> simp_all

theorem wordKind_pos {w : Str} (hw : flagLike w = false) : wordKind w = .pos := by
  unfold wordKind
  split
  · cases hw
  · cases hw
  · cases hw
  · rfl

theorem wordKind_long {body : Str} (h : body ≠ []) : wordKind ('-' :: '-' :: body) = .long body := by
  rw [wordKind]
  intro e; cases e; exact h rfl

theorem wordKind_short {c : Char} {r : Str} (hc : c ≠ '-') : wordKind ('-' :: c :: r) = .short (c :: r) := by
  rw [wordKind]
  · intro e _; exact hc e
  · intro e; exact hc e

theorem parseShort_attached_eq {fs : PFlags} {c : Char} {f : PFlag} (hf : findShort fs c = some f) {v : Str} (hv : v ≠ [])
    (hok : valueOk f v = true) (next : Option Str) :
    parseShort fs (c :: '=' :: v) next = .ok ([(f.name, v)], false) := by
  obtain ⟨x, xs, rfl⟩ := List.exists_cons_of_ne_nil hv
  simp [parseShort, hf, eqValue, hok]

theorem parseShort_value {fs : PFlags} {c : Char} {f : PFlag} (hf : findShort fs c = some f) (hd : f.noOptDefVal = none)
    {v : Str} (hv : v ≠ []) (he : v.head? ≠ some '=') (hok : valueOk f v = true) (next : Option Str) :
    parseShort fs (c :: v) next = .ok ([(f.name, v)], false) := by
  obtain ⟨x, xs, rfl⟩ := List.exists_cons_of_ne_nil hv
  simp [parseShort, hf, eqValue_none he, hd, hok]

theorem parseShort_default {fs : PFlags} {c : Char} {f : PFlag} {dv : Str} (hf : findShort fs c = some f)
    (hd : f.noOptDefVal = some dv) {rest : Str} (he : rest.head? ≠ some '=') {next : Option Str}
    {as : List (Str × Str)} {took : Bool} (h : parseShort fs rest next = .ok (as, took)) :
    parseShort fs (c :: rest) next = .ok ((f.name, dv) :: as, took) := by
  rw [parseShort]
  simp only [hf, eqValue_none he, hd, h]

/-- a flag word that parses with no word behind it (`none`: the look-ahead) does not look at what is behind it -/
theorem parseLong_none {fs : PFlags} {body : Str} {a : Str × Str} {took : Bool}
    (h : parseLong fs body none = .ok (a, took)) :
    took = false ∧ ∀ nx, parseLong fs body nx = .ok (a, false) := by
  -- hypothesis and goal are the same tree, read with `none` and with `nx`: every split decides both; only the last
  -- match looks at the next word, and there `none` fails
  revert h
  unfold parseLong
  split
  · nofun
  · rename_i c _
    -- (`split` on this `if` simplifies the whole goal twice over: slow)
    by_cases hc : c = '-' ∨ c = '='
    · simp only [if_pos hc]
      nofun
    · simp only [if_neg hc]
      split
      · split <;> nofun
      · split
        · -- `--name=v`
          split
          · rintro ⟨⟩; exact ⟨rfl, fun _ => rfl⟩
          · nofun
        · -- `--name`
          split
          · rintro ⟨⟩; exact ⟨rfl, fun _ => rfl⟩
          · nofun

theorem parseLong_took {fs : PFlags} {body : Str} {nx : Option Str} {a : Str × Str}
    (h : parseLong fs body nx = .ok (a, true)) : nx.isSome = true := by
  cases nx with
  | some _ => rfl
  | none => have := (parseLong_none h).1; simp at this

/-- `parseLong_none` for a shorthand word: parsed with no word behind it, it reads the same with any look-ahead -/
theorem parseShort_none {fs : PFlags} : ∀ {cs : Str} {as : List (Str × Str)} {took : Bool},
    parseShort fs cs none = .ok (as, took) →
    took = false ∧ ∀ nx, parseShort fs cs nx = .ok (as, false) := by
  intro cs
  induction cs with
  | nil => rintro as took ⟨⟩; exact ⟨rfl, fun _ => rfl⟩
  | cons c rest ih =>
    intro as took
    simp only [parseShort]
    split
    · split <;> nofun
    · split
      · -- `-f=v`
        split
        · rintro ⟨⟩; exact ⟨rfl, fun _ => rfl⟩
        · nofun
      · split
        · -- a letter with a default
          split
          · rename_i hr
            rintro ⟨⟩
            obtain ⟨rfl, hall⟩ := ih hr
            exact ⟨rfl, fun nx => by rw [hall nx]⟩
          · nofun
        · -- `-fv`, or the last letter
          split
          · split
            · rintro ⟨⟩; exact ⟨rfl, fun _ => rfl⟩
            · nofun
          · nofun

theorem parseShort_took {fs : PFlags} {cs : Str} {nx : Option Str} {as : List (Str × Str)}
    (h : parseShort fs cs nx = .ok (as, true)) : nx.isSome = true := by
  cases nx with
  | some _ => rfl
  | none => have := (parseShort_none h).1; simp at this

theorem parseArgs_single {fs : PFlags} {inter : Bool} {w : Str} (hw : flagLike w = false) (p : Parsed) :
    parseArgs fs inter [w] false p = .ok { p with args := p.args ++ [w] } := by
  cases inter <;> simp [parseArgs, wordKind_pos hw]

/-- the parser still reads flags: no `--` so far, and no positional if the flags must come first -/
def Open (inter : Bool) (p : Parsed) : Prop := p.lenAtDash = none ∧ (inter = true ∨ p.args = [])

/-- the append law: if the parser accepts `ws`, ending in `q`, then on `ws ++ tail` it either goes on with `tail` from
    `q` (no `--` was met on the way), or it had stopped reading flags and takes `tail` as arguments (then `q` is not
    `Open`).  `hskip`: with the skip set and no word left, the skip would fall on the first word of `tail`. -/
theorem parseArgs_append {fs : PFlags} {inter : Bool} (tail : List Str) {ws : List Str} {skip : Bool} {p q : Parsed}
    (hskip : skip = true → ws ≠ []) (h : parseArgs fs inter ws skip p = .ok q) :
    (parseArgs fs inter (ws ++ tail) skip p = parseArgs fs inter tail false q ∧ q.lenAtDash = p.lenAtDash) ∨
    (parseArgs fs inter (ws ++ tail) skip p = .ok { q with args := q.args ++ tail } ∧ ¬ Open inter q) := by
  -- cases: no word left; the value of the flag before; `--`; a long flag word, a shorthand word (each rejected /
  -- read); a positional (interspersed / ending the parse)
  fun_induction parseArgs fs inter ws skip p with
  | case1 skip p =>
    cases skip with
    | true => exact absurd rfl (hskip rfl)
    | false => cases h; exact .inl ⟨rfl, rfl⟩
  | case2 s rest p ih => simpa [parseArgs] using ih (by simp) h
  | case3 s rest p hk =>
    cases h
    exact .inr ⟨by simp [parseArgs, hk], by simp [Open]⟩
  | case4 => cases h
  | case5 s rest p body hk a took hl ih =>
    -- no word behind the flag word: it reads the same with any look-ahead and takes none; one: the same look-ahead
    cases rest with
    | nil => obtain ⟨rfl, hall⟩ := parseLong_none hl; simpa [parseArgs, hk, hall] using ih (by simp) h
    | cons x r => simpa [parseArgs, hk, show parseLong fs body (some x) = _ from hl] using ih (by simp) h
  | case6 => cases h
  | case7 s rest p cs hk as took hl ih =>
    cases rest with
    | nil => obtain ⟨rfl, hall⟩ := parseShort_none hl; simpa [parseArgs, hk, hall] using ih (by simp) h
    | cons x r => simpa [parseArgs, hk, show parseShort fs cs (some x) = _ from hl] using ih (by simp) h
  | case8 s rest p hk hi ih => simpa [parseArgs, hk, hi] using ih (by simp) h
  | case9 s rest p hk hi =>
    cases h
    exact .inr ⟨by simp [parseArgs, hk, hi], by simp [Open, hi]⟩

theorem parseArgs_append_open {fs : PFlags} {inter : Bool} (tail : List Str) {ws : List Str} {skip : Bool} {p q : Parsed}
    (hskip : skip = true → ws ≠ []) (h : parseArgs fs inter ws skip p = .ok q) (hd : q.lenAtDash = none)
    (ho : inter = true ∨ q.args = []) :
    parseArgs fs inter (ws ++ tail) skip p = parseArgs fs inter tail false q :=
  ((parseArgs_append tail hskip h).resolve_right fun h => h.2 ⟨hd, ho⟩).1

theorem parseArgs_snoc {fs : PFlags} {inter : Bool} (w : Str) :
    ∀ (ws : List Str) (skip : Bool) (p q : Parsed),
      p.lenAtDash = none → (skip = true → ws ≠ []) →
      parseArgs fs inter ws skip p = .ok q →
      (flagLike w = false ∨ q.lenAtDash.isSome = true) →
      parseArgs fs inter (ws ++ [w]) skip p = .ok { q with args := q.args ++ [w] } := by
  intro ws skip p q hp hskip h hw
  rcases parseArgs_append [w] hskip h with ⟨he, hd⟩ | ⟨he, -⟩
  · -- no `--` so far: `w` does not look like a flag
    rw [hd, hp] at hw
    rw [he, parseArgs_single (hw.resolve_right (by simp))]
  · exact he

theorem parseArgs_lenAtDash_le {fs : PFlags} {inter : Bool} {ws : List Str} {skip : Bool} {p q : Parsed} {n : Nat}
    (hp : p.lenAtDash = none) (h : parseArgs fs inter ws skip p = .ok q) (hn : q.lenAtDash = some n) :
    n ≤ q.args.length := by
  fun_induction parseArgs fs inter ws skip p with
  | case1 | case9 => cases h; simp [hp] at hn
  | case3 => cases h; cases hn; simp
  | case4 | case6 => cases h
  | case2 s rest p ih => exact ih hp h
  | case5 s rest p body hk a took hl ih => exact ih hp h
  | case7 s rest p cs hk as took hl ih => exact ih hp h
  | case8 s rest p hk hi ih => exact ih hp h

theorem parse_append_open {fs : PFlags} {inter : Bool} {ws tail : List Str} {p : Parsed}
    (h : parse fs inter ws = .ok p) (hd : p.lenAtDash = none) (ho : inter = true ∨ p.args = []) :
    parse fs inter (ws ++ tail) = parseArgs fs inter tail false p :=
  parseArgs_append_open tail (by simp) h hd ho

theorem parse_snoc {fs : PFlags} {inter : Bool} {ws : List Str} {p : Parsed} {w : Str}
    (h : parse fs inter ws = .ok p) (hw : flagLike w = false ∨ p.lenAtDash.isSome = true) :
    parse fs inter (ws ++ [w]) = .ok { p with args := p.args ++ [w] } :=
  parseArgs_snoc w ws false {} p rfl (by simp) h hw

theorem parse_lenAtDash_le {fs : PFlags} {inter : Bool} {ws : List Str} {p : Parsed} {n : Nat}
    (h : parse fs inter ws = .ok p) (hn : p.lenAtDash = some n) : n ≤ p.args.length :=
  parseArgs_lenAtDash_le rfl h hn

end Carapace.Spec.Pflag

namespace Carapace.Model
open Carapace.Spec

theorem lookupShort_some {fs : FlagSet} {c : Char} {f : FlagDef} (h : lookupShort fs c = some f) :
    f ∈ fs ∧ f.short = some c :=
  ⟨List.mem_of_find?_eq_some h, by simpa using List.find?_some h⟩

theorem lookupShortG_some {fs : FlagSetG} {c : Char} {f : FlagDefG} (h : lookupShortG fs c = some f) :
    f ∈ fs ∧ f.short = some c :=
  ⟨List.mem_of_find?_eq_some h, by simpa using List.find?_some h⟩

theorem consumes_args {fd : Found} (h : consumes fd = true) : fd.args = [] := by
  simp only [consumes, Bool.and_eq_true, List.isEmpty_iff] at h
  exact h.2

theorem consumes_noDefault {f : Pflag.PFlag} {fd : Found} (hfd : f.toDef = fd.flag) (h : consumes fd = true) :
    f.noOptDefVal = none := by
  simp only [consumes, ← hfd, Pflag.PFlag.toDef, Bool.and_eq_true, Bool.not_eq_true'] at h
  simpa using h.1.2

theorem lookupLong_map (pfs : Pflag.PFlags) (n : Str) :
    lookupLong (pfs.map Pflag.PFlag.toDef) n = (Pflag.findLong pfs n).map Pflag.PFlag.toDef := by
  simp only [lookupLong, Pflag.findLong, List.find?_map]
  rfl

theorem lookupShort_map (pfs : Pflag.PFlags) (c : Char) :
    lookupShort (pfs.map Pflag.PFlag.toDef) c = (Pflag.findShort pfs c).map Pflag.PFlag.toDef := by
  simp only [lookupShort, Pflag.findShort, List.find?_map]
  rfl

theorem lookupArg_long (fs : FlagSet) (body : Str) : lookupArg fs ('-' :: '-' :: body) = lookupPosixLong fs body := rfl

theorem lookupArg_short {fs : FlagSet} {c : Char} (hc : c ≠ '-') (rest : Str) :
    lookupArg fs ('-' :: c :: rest) = lookupPosixShort fs ['-'] (c :: rest) := by
  rw [lookupArg]
  exact fun e => hc e

theorem lookupArgG_long (fs : FlagSetG) (body : Str) :
    lookupArgG fs ('-' :: '-' :: body) = lookupPosixLongG fs body := rfl

theorem lookupArgG_short {fs : FlagSetG} {c : Char} (hc : c ≠ '-') (rest : Str) :
    lookupArgG fs ('-' :: c :: rest) =
      if isPosixG fs then lookupPosixShortG fs ['-'] (c :: rest) else lookupNonPosixG fs ('-' :: c :: rest) := by
  rw [lookupArgG]
  exact fun e => hc e

theorem lookupArg_cases {fs : FlagSet} {a : Str} {fd : Found} (h : lookupArg fs a = some fd) :
    (∃ body, a = '-' :: '-' :: body ∧ lookupPosixLong fs body = some fd) ∨
    (∃ c rest, c ≠ '-' ∧ a = '-' :: c :: rest ∧ lookupPosixShort fs ['-'] (c :: rest) = some fd) := by
  unfold lookupArg at h
  split at h
  · exact .inl ⟨_, rfl, h⟩
  · rename_i c rest hnl
    exact .inr ⟨c, rest, hnl, rfl, h⟩
  · cases h

theorem lookupPosixShort_step {fs : FlagSet} {c : Char} {f : FlagDef} (hf : lookupShort fs c = some f) (pre rest : Str) :
    lookupPosixShort fs pre (c :: rest) =
      match rest with
      | [] => some ⟨f, pre ++ [c], []⟩
      | d :: r2 =>
        if d = '=' then some ⟨f, pre ++ [c, '='], [r2]⟩
        else if f.noOptDef then lookupPosixShort fs (pre ++ [c]) (d :: r2)
        else some ⟨f, pre ++ [c], [d :: r2]⟩ := by
  rw [lookupPosixShort, hf]
  cases rest with
  | nil => rfl
  | cons d r2 =>
    -- the two `=` branches of the definition are the same value
    cases r2 <;> cases h : f.noOptDef <;> simp [h]

/-- where the look-up of `c :: rest` (served prefix so far: `pre`) stands after the letter `c` of flag `f`, in the
    parser's terms -/
inductive ShortStep (pfs : Pflag.PFlags) (pre : Str) (c : Char) (rest : Str) (fd : Found) (f : Pflag.PFlag) : Prop
  /-- `c` is the last letter -/
  | last : f.toDef = fd.flag → fd.prefix_ = pre ++ [c] → rest = [] → fd.args = [] → ShortStep pfs pre c rest fd f
  /-- `-cvalue` for a letter without a default -/
  | value : f.toDef = fd.flag → fd.prefix_ = pre ++ [c] → f.noOptDefVal = none → fd.args ≠ [] →
      ShortStep pfs pre c rest fd f
  /-- `-c=...` -/
  | eq : f.toDef = fd.flag → fd.prefix_ = pre ++ [c, '='] → fd.args ≠ [] → ShortStep pfs pre c rest fd f
  /-- a letter with a default: the look-up goes on behind it -/
  | default (dv : Str) : f.noOptDefVal = some dv → rest.head? ≠ some '=' →
      lookupPosixShort (pfs.map Pflag.PFlag.toDef) (pre ++ [c]) rest = some fd → ShortStep pfs pre c rest fd f

theorem lookupPosixShort_cons {pfs : Pflag.PFlags} {pre : Str} {c : Char} {rest : Str} {fd : Found}
    (h : lookupPosixShort (pfs.map Pflag.PFlag.toDef) pre (c :: rest) = some fd) :
    ∃ f ∈ pfs, Pflag.findShort pfs c = some f ∧ ShortStep pfs pre c rest fd f := by
  cases hf : Pflag.findShort pfs c with
  | none => rw [lookupPosixShort] at h; simp [lookupShort_map, hf] at h
  | some f =>
    refine ⟨f, (Pflag.findShort_some hf).1, rfl, ?_⟩
    rw [lookupPosixShort_step (f := f.toDef) (by rw [lookupShort_map, hf]; rfl)] at h
    cases rest with
    | nil => cases h; exact .last rfl rfl rfl rfl
    | cons d r2 =>
      simp only at h
      split at h
      · cases h; exact .eq rfl rfl (by simp)
      · rename_i hd
        split at h
        · rename_i hn; exact .default _ (Option.eq_some_of_isSome hn) (by simpa using hd) h
        · rename_i hn; cases h; exact .value rfl rfl (by simpa [Pflag.PFlag.toDef] using hn) (by simp)

theorem lookupPosixLong_some {pfs : Pflag.PFlags} {body : Str} {fd : Found}
    (h : lookupPosixLong (pfs.map Pflag.PFlag.toDef) body = some fd) :
    ∃ f ∈ pfs, Pflag.findLong pfs f.name = some f ∧ f.toDef = fd.flag ∧
      (body = f.name ∧ fd.args = [] ∨ fd.prefix_ = "--".toList ++ f.name ++ ['='] ∧ fd.args ≠ []) := by
  unfold lookupPosixLong at h
  rcases Str.cutChar_cases '=' body with ⟨-, e⟩ | ⟨n, v, -, -, e⟩
  · -- no `=` in the word: the name is the whole body
    simp only [e, lookupLong_map, Option.map_map] at h
    obtain ⟨f, hf, rfl⟩ := Option.map_eq_some_iff.mp h
    obtain ⟨hmem, rfl⟩ := Pflag.findLong_some hf
    exact ⟨f, hmem, hf, rfl, .inl ⟨rfl, rfl⟩⟩
  · simp only [e, lookupLong_map, Option.map_map] at h
    obtain ⟨f, hf, rfl⟩ := Option.map_eq_some_iff.mp h
    obtain ⟨hmem, rfl⟩ := Pflag.findLong_some hf
    exact ⟨f, hmem, hf, rfl, .inr ⟨rfl, by simp⟩⟩

end Carapace.Model

/-
  C19 — Timeout bounds the time to an answer without altering timely answers.
  Model time only: the scheduling margin and real races of the abandoned computation are runtime
  behaviour, searched by the check (wall clock, race detector), not proved.
-/
import Carapace.Model.Timeout
import Carapace.Gen.CharSets

namespace Carapace.Props.C19
open Carapace.Model

/-- **bound**: the caller returns at model time `≤ d`, even if the wrapped action never returns -/
theorem C19_bound {α} (d : Nat) (dur : Option Nat) (result alt : α) (tie : Bool) :
    (timeoutRun d dur result alt tie).2 ≤ d := by
  cases dur with
  | none => exact Nat.le_refl d
  | some t =>
    simp only [timeoutRun]
    split
    · exact Nat.le_of_lt ‹t < d›
    · split <;> exact Nat.le_refl d

/-- **late**: if the wrapped action needs longer than `d` (or never returns) the answer is the alternative -/
theorem C19_late {α} (d : Nat) (dur : Option Nat) (result alt : α) (tie : Bool)
    (h : dur = none ∨ ∃ t, dur = some t ∧ d < t) : (timeoutRun d dur result alt tie).1 = alt := by
  rcases h with rfl | ⟨t, rfl, ht⟩
  · rfl
  · simp only [timeoutRun, if_neg (Nat.lt_asymm ht), if_pos ht]

/-- **timely**: if it finishes before `d` the answer is its result, returned as a whole (metadata included) -/
theorem C19_timely {α} (d t : Nat) (result alt : α) (tie : Bool) (h : t < d) :
    timeoutRun d (some t) result alt tie = (result, t) :=
  if_pos h

/-- **happens-before**: the goroutine's write of the result precedes the caller's read
    (write → send → receive → read) -/
theorem C19_hb (t : TTrace) (h : t.Valid) : t.gWrite < t.mRead :=
  Nat.lt_trans h.1 (Nat.lt_trans h.2.1 h.2.2)

/-- read from the source on every run -/
theorem channel_capacity : Gen.timeout_chan_capacities = [['1']] := by decide

theorem timeout_shape : Gen.timeout_shape = ["go".toList, "send".toList, "select".toList] := by
  repeat rw [String.toList_ofList]
  rfl

/-- capacity 1, nothing buffered: the abandoned goroutine's single send never blocks, so it does not leak -/
theorem C19_send_never_blocks : sendBlocks 1 0 = false := by decide

end Carapace.Props.C19

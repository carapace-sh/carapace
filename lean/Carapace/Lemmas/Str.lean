/-
  Lemmas about the definitions of `Basic/Str.lean`.  `hasPrefix s p` says `p <+: s`, `hasSuffix s p` says `p <:+ s`:
  what a proof needs about prefixes and suffixes comes from core's `List.IsPrefix` / `List.IsSuffix` lemmas.
-/
import Carapace.Basic.Str

namespace Carapace.Str

theorem hasPrefix_iff_prefix {s p : Str} : hasPrefix s p = true ↔ p <+: s := by
  fun_induction hasPrefix s p with
  | case1 => simp
  | case2 => simp
  | case3 c s d p ih => simp only [Bool.and_eq_true, beq_iff_eq, ih, List.cons_prefix_cons, eq_comm (a := c)]

theorem hasPrefix_append (a b : Str) : hasPrefix (a ++ b) a = true :=
  hasPrefix_iff_prefix.mpr (List.prefix_append a b)

theorem hasPrefix_cons {s p : Str} {c : Char} (h : hasPrefix s (c :: p) = true) : ∃ t, s = c :: t := by
  obtain ⟨t, rfl⟩ := hasPrefix_iff_prefix.mp h
  exact ⟨p ++ t, rfl⟩

theorem hasPrefix_of_prefix {s p q : Str} (h : hasPrefix s p = true) (hq : q <+: p) : hasPrefix s q = true :=
  hasPrefix_iff_prefix.mpr (hq.trans (hasPrefix_iff_prefix.mp h))

theorem hasPrefix_append_left (a x y : Str) : hasPrefix (a ++ x) (a ++ y) = hasPrefix x y :=
  Bool.eq_iff_iff.mpr (by simp only [hasPrefix_iff_prefix, List.prefix_append_right_inj])

theorem hasPrefix_concat_of_not_mem (s p : Str) (c : Char) (h : c ∉ p) : hasPrefix (s ++ [c]) p = hasPrefix s p :=
  Bool.eq_iff_iff.mpr (by
    simp only [hasPrefix_iff_prefix, List.prefix_concat_iff]
    exact ⟨fun h' => h'.resolve_left fun e => h (by rw [e]; simp), .inr⟩)

theorem hasSuffix_iff_suffix {s p : Str} : hasSuffix s p = true ↔ p <:+ s := by
  rw [hasSuffix, hasPrefix_iff_prefix, List.reverse_prefix]

theorem hasSuffix_singleton (s : Str) (c : Char) : hasSuffix s [c] = (s.getLast? == some c) := by
  rw [Bool.eq_iff_iff, hasSuffix_iff_suffix, beq_iff_eq, List.getLast?_eq_some_iff]
  exact exists_congr fun _ => eq_comm

theorem trimSuffix_append (w d : Str) (h : hasSuffix w d = true) : trimSuffix w d ++ d = w := by
  obtain ⟨t, rfl⟩ := hasSuffix_iff_suffix.mp h
  simp [trimSuffix, h]

theorem trimSuffix_of_not (w d : Str) (h : hasSuffix w d = false) : trimSuffix w d = w := by
  simp [trimSuffix, h]

/-- in the form in which a `split` on `if containsAny s chars` leaves the negative case; the set is consulted by code
    point, since the kernel compares numerals at once and `Char`s through four structures -/
theorem codes_not_mem_of_not_containsAny {s chars : Str} (h : ¬ containsAny s chars = true) :
    ∀ c ∈ s, c.toNat ∉ chars.map Char.toNat := by
  simpa [containsAny, Char.toNat_inj] using h

theorem join_cons (sep a : Str) (xs : List Str) : join sep (a :: xs) = a ++ xs.flatMap (sep ++ ·) := by
  induction xs generalizing a with
  | nil => simp [join]
  | cons b xs ih => simp only [join, ih b, List.flatMap_cons, List.append_assoc]

theorem join_snoc (sep : Str) (xs : List Str) (x : Str) :
    join sep (xs ++ [x]) = if xs = [] then x else join sep xs ++ sep ++ x := by
  cases xs with
  | nil => rfl
  | cons a r => simp [join_cons, List.flatMap_append]

theorem join_singleton (d : Char) (xs : List Str) : join [d] xs = joinChar d xs := by
  fun_induction joinChar d xs with
  | case1 => rfl
  | case2 => rfl
  | case3 x y r ih => simp [join, ih]

theorem joinChar_eq_nil (d : Char) (xs : List Str) (h : joinChar d xs = []) : xs = [] ∨ xs = [[]] := by
  fun_induction joinChar d xs <;> simp_all

theorem splitOnChar_ne_nil (d : Char) (s : Str) : splitOnChar d s ≠ [] := by
  fun_induction splitOnChar d s <;> simp

theorem splitOnChar_no (d : Char) (x : Str) (h : d ∉ x) : splitOnChar d x = [x] := by
  induction x with
  | nil => rfl
  | cons c x ih =>
    rw [List.mem_cons, not_or] at h
    simp [splitOnChar, Ne.symm h.1, ih h.2]

theorem splitOnChar_append_cons (d : Char) (a s : Str) :
    splitOnChar d (a ++ d :: s) = splitOnChar d a ++ splitOnChar d s := by
  fun_induction splitOnChar d a with
  | case1 => simp [splitOnChar]
  | case2 a ih => simp [splitOnChar, ih]
  | case3 c a hc h0 => exact absurd h0 (splitOnChar_ne_nil d a)
  | case4 c a hc w ws heq ih => simp [splitOnChar, hc, ih, heq]

theorem splitOnChar_append (d : Char) (x rest : Str) (h : d ∉ x) :
    splitOnChar d (x ++ d :: rest) = x :: splitOnChar d rest := by
  rw [splitOnChar_append_cons, splitOnChar_no d x h, List.singleton_append]

theorem splitOnChar_joinChar (d : Char) (xs : List Str) (hne : xs ≠ []) (h : ∀ x ∈ xs, d ∉ x) :
    splitOnChar d (joinChar d xs) = xs := by
  fun_induction joinChar d xs with
  | case1 => exact absurd rfl hne
  | case2 x => exact splitOnChar_no d x (h x List.mem_cons_self)
  | case3 x y r ih =>
    rw [splitOnChar_append d x _ (h x List.mem_cons_self), ih (by simp) fun z hz => h z (List.mem_cons_of_mem _ hz)]

theorem splitOnChar_join (d : Char) (xs : List Str) (hne : xs ≠ []) (h : ∀ x ∈ xs, d ∉ x) :
    splitOnChar d (join [d] xs) = xs := by
  rw [join_singleton, splitOnChar_joinChar d xs hne h]

theorem not_mem_of_mem_splitOnChar (d : Char) (s : Str) : ∀ x ∈ splitOnChar d s, d ∉ x := by
  fun_induction splitOnChar d s with
  | case1 => simp
  | case2 s ih => simpa using ih
  | case3 c s hc => simp [Ne.symm hc]
  | case4 c s hc w ws heq ih => simpa [heq, Ne.symm hc] using ih

theorem cutChar_cons_ne (d c : Char) (s : Str) (h : c ≠ d) :
    cutChar d (c :: s) = (c :: (cutChar d s).1, (cutChar d s).2) := by
  simp [cutChar, h]

theorem cutChar_append_of_not_mem (d : Char) (a s : Str) (h : d ∉ a) :
    cutChar d (a ++ s) = (a ++ (cutChar d s).1, (cutChar d s).2) := by
  induction a with
  | nil => rfl
  | cons c a ih =>
    rw [List.mem_cons, not_or] at h
    rw [List.cons_append, cutChar_cons_ne d c _ (Ne.symm h.1), ih h.2, List.cons_append]

theorem cutChar_append (d : Char) (a b : Str) (h : d ∉ a) : cutChar d (a ++ d :: b) = (a, some b) := by
  simp [cutChar_append_of_not_mem d a _ h, cutChar]

theorem cutChar_no (d : Char) (a : Str) (h : d ∉ a) : cutChar d a = (a, none) := by
  simpa [cutChar] using cutChar_append_of_not_mem d a [] h

theorem cutChar_cases (d : Char) (s : Str) :
    (d ∉ s ∧ cutChar d s = (s, none)) ∨ ∃ a b, d ∉ a ∧ s = a ++ d :: b ∧ cutChar d s = (a, some b) := by
  by_cases h : d ∈ s
  · obtain ⟨a, b, rfl, ha⟩ := List.eq_append_cons_of_mem h
    exact .inr ⟨a, b, ha, rfl, cutChar_append d a b ha⟩
  · exact .inl ⟨h, cutChar_no d s h⟩

theorem cutChar_some_of_mem (d : Char) (s : Str) (h : d ∈ s) : ∃ a b, cutChar d s = (a, some b) :=
  (cutChar_cases d s).elim (fun h' => absurd h h'.1) fun ⟨a, b, _, _, e⟩ => ⟨a, b, e⟩

theorem natToStr_eq_toDigits (n : Nat) : natToStr n = Nat.toDigits 10 n := Nat.toList_repr

theorem natToStr_ne_nil (n : Nat) : natToStr n ≠ [] := by
  rw [natToStr_eq_toDigits]
  exact Nat.toDigits_ne_nil

theorem natToStr_inj {i j : Nat} (h : natToStr i = natToStr j) : i = j := by
  rw [natToStr_eq_toDigits, natToStr_eq_toDigits] at h
  rw [← Nat.ofDigitChars_ten_toDigits (n := i), h, Nat.ofDigitChars_ten_toDigits]

end Carapace.Str

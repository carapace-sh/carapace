/-
  C16 — file and directory completion mirrors the file system seen from the Context.
  The listing logic of the model (`actionPathValues`); the file system is read by the harness (the OS is not
  modelled); the composition with `MultiParts("/")` is C11's and compared with the real ActionFiles.
-/
import Carapace.Spec.Listing
import Carapace.Lemmas.Str

namespace Carapace.Props.C16
open Carapace.Model Carapace.Spec

/-- what an entry contributes is the display folder, its name, and `/` for a directory -/
theorem C16_entry_shape (showHidden dirOnly : Bool) (suffixes : List Str) (df : Str) (e : DirEntry) (v : Str)
    (h : entryValue showHidden dirOnly suffixes df e = some v) :
    v = df ++ e.name ++ ['/'] ∨ v = df ++ e.name := by
  -- the branches of `entryValue` in order
  unfold entryValue at h
  split at h
  · cases h
  · split at h
    · exact Or.inl (Option.some.inj h).symm
    · exact Or.inl (Option.some.inj h).symm
    · split at h
      · cases h
      · split at h
        · exact Or.inr (Option.some.inj h).symm
        · cases h

theorem not_hidden {showHidden : Bool} {name : Str} (hv : showHidden = true ∨ Str.hasPrefix name ['.'] = false) :
    (!showHidden && Str.hasPrefix name ['.']) = false := by
  rcases hv with h | h <;> simp [h]

/-- dot-entries only when hidden entries are to be shown -/
theorem C16_entry_hidden (dirOnly : Bool) (suffixes : List Str) (df : Str) (e : DirEntry)
    (he : Str.hasPrefix e.name ['.'] = true) : entryValue false dirOnly suffixes df e = none := by
  simp [entryValue, he]

/-- directories (and links to directories) get a trailing `/`, whatever the suffix filter -/
theorem C16_entry_dir (showHidden dirOnly : Bool) (suffixes : List Str) (df : Str) (e : DirEntry)
    (hk : e.kind = .dir ∨ e.kind = .linkDir) (hv : showHidden = true ∨ Str.hasPrefix e.name ['.'] = false) :
    entryValue showHidden dirOnly suffixes df e = some (df ++ e.name ++ ['/']) := by
  rcases hk with hk | hk <;> simp [entryValue, not_hidden hv, hk]

/-- regular files: only for ActionFiles and only with an allowed suffix -/
theorem C16_entry_file (showHidden : Bool) (suffixes : List Str) (df : Str) (e : DirEntry)
    (hk : e.kind = .file) (hv : showHidden = true ∨ Str.hasPrefix e.name ['.'] = false) :
    entryValue showHidden true suffixes df e = none ∧
    entryValue showHidden false suffixes df e =
      (if suffixes.any (fun s => Str.hasSuffix e.name s) then some (df ++ e.name) else none) := by
  simp [entryValue, not_hidden hv, hk]

/-- the listing specification hides dot-entries unless the typed segment starts with a dot -/
theorem C16_spec_hidden (typed : Str) (dirOnly : Bool) (suffixes : List Str)
    (h : Str.hasPrefix (splitTyped typed).2 ['.'] = false) (e : DirEntry) (he : Str.hasPrefix e.name ['.'] = true) :
    (splitTyped typed).1 ++ e.name ∉ (listing typed [e] dirOnly suffixes) ∧
    (splitTyped typed).1 ++ e.name ++ ['/'] ∉ (listing typed [e] dirOnly suffixes) := by
  simp [listing, h, he]

theorem entryValue_filter (showHidden dirOnly : Bool) (suffixes : List Str) (df seg : Str) (hseg : '/' ∉ seg)
    (e : DirEntry) :
    (entryValue showHidden dirOnly suffixes df e).filter (fun v => Str.hasPrefix v (df ++ seg)) =
      if Str.hasPrefix e.name seg then entryValue showHidden dirOnly suffixes df e else none := by
  cases h : entryValue showHidden dirOnly suffixes df e with
  | none => simp
  | some v =>
    have hv : Str.hasPrefix v (df ++ seg) = Str.hasPrefix e.name seg := by
      rcases C16_entry_shape _ _ _ _ _ _ h with rfl | rfl
      · rw [List.append_assoc, Str.hasPrefix_append_left, Str.hasPrefix_concat_of_not_mem _ _ _ hseg]
      · rw [Str.hasPrefix_append_left]
    simp [Option.filter, hv]

theorem listing_eq (typed : Str) (entries : List DirEntry) (dirOnly : Bool) (suffixes : List Str) :
    listing typed entries dirOnly suffixes = entries.filterMap (fun e =>
      if Str.hasPrefix e.name (splitTyped typed).2 then
        entryValue (Str.hasPrefix (splitTyped typed).2 ['.']) dirOnly (if suffixes.isEmpty then [[]] else suffixes)
          (splitTyped typed).1 e
      else none) := by
  -- no suffix given: the model tests the empty suffix, the specification says "any"
  have hany : ∀ name : Str, (if suffixes.isEmpty then [[]] else suffixes).any (fun s => Str.hasSuffix name s) =
      (suffixes.isEmpty || suffixes.any (fun s => Str.hasSuffix name s)) := by
    intro name; cases suffixes <;> simp [Str.hasSuffix, Str.hasPrefix]
  simp only [listing, entryValue, hany, Bool.and_comm]
  congr 1; funext e
  cases Str.hasPrefix e.name (splitTyped typed).2 <;> rfl

theorem listing_of_values (typed dp seg : Str) (hsp : splitTyped typed = (dp, seg)) (hty : typed = dp ++ seg)
    (hseg : '/' ∉ seg) (entries : List DirEntry) (dirOnly : Bool) (suffixes : List Str) :
    (entries.filterMap
        (entryValue (Str.hasPrefix seg ['.']) dirOnly (if suffixes.isEmpty then [[]] else suffixes) dp)).filter
      (fun v => Str.hasPrefix v typed) = listing typed entries dirOnly suffixes := by
  rw [listing_eq, hsp, List.filter_filterMap]
  subst hty
  congr 1; funext e
  exact entryValue_filter _ _ _ _ _ hseg e

/-- **the typed directory part is rebuilt with `filepath.Dir`, i.e. cleaned**: for typed `a//` in a
    directory that holds `a/x`, nothing is offered although `a//x` continues what was typed
    (finding `files_unclean_dir_part`) -/
theorem C16_unclean_counterexample :
    filesModel "/d".toList "a//".toList [{ name := "x".toList, kind := .file }] false [] = some []
    ∧ listing "a//".toList [{ name := "x".toList, kind := .file }] false [] = ["a//x".toList] := by
  repeat rw [String.toList_ofList]
  decide

/-- and for a clean typed path both agree (an instance) -/
example :
    filesModel "/d".toList "a/x".toList [{ name := "x.txt".toList, kind := .file }, { name := "xd".toList, kind := .dir },
      { name := "y".toList, kind := .file }, { name := ".xh".toList, kind := .file }] false []
      = some (listing "a/x".toList [{ name := "x.txt".toList, kind := .file }, { name := "xd".toList, kind := .dir },
      { name := "y".toList, kind := .file }, { name := ".xh".toList, kind := .file }] false []) := by
  repeat rw [String.toList_ofList]
  decide

end Carapace.Props.C16

/-
  C05 — a space follows an accepted candidate iff its value has no no-space suffix.
  Theorems about the models of the pipeline and of the formatters, which the `value` correspondence binds to
  the code.
-/
import Carapace.Model.Shells
import Carapace.Spec.FmtOracle
import Carapace.Lemmas.Sort

namespace Carapace.Props.C05
open Carapace.Model Carapace.Spec

theorem matches_iff (sm : SuffixMatcher) (s : Str) :
    SuffixMatcher.matchesStr sm s = true ↔ '*' ∈ sm ∨ ∃ c ∈ sm, s.getLast? = some c := by
  simp only [SuffixMatcher.matchesStr, List.any_eq_true, Bool.or_eq_true, beq_iff_eq, and_or_left, exists_or,
    exists_eq_right]

/-- the model's decision coincides with the property's own wording (`Spec.wantsNospace`) -/
theorem matches_eq_spec (sm : SuffixMatcher) (s : Str) :
    SuffixMatcher.matchesStr sm s = wantsNospace sm s := by
  apply Bool.eq_iff_iff.mpr
  rw [matches_iff, wantsNospace]
  cases s.getLast? <;> simp

theorem add_star (sm sfx : SuffixMatcher) (h : '*' ∈ sm ∨ '*' ∈ sfx) : SuffixMatcher.add sm sfx = ['*'] :=
  if_pos (by simpa using h)

theorem mem_add (sm sfx : SuffixMatcher) (h : '*' ∉ sm ∧ '*' ∉ sfx) (c : Char) :
    c ∈ SuffixMatcher.add sm sfx ↔ c ∈ sm ∨ c ∈ sfx := by
  unfold SuffixMatcher.add
  rw [if_neg (by simpa using h)]
  simp only [mem_sortBy, List.mem_append, List.mem_filter]
  by_cases hm : c ∈ sm <;> simp [hm]

theorem matches_star (s : Str) : SuffixMatcher.matchesStr ['*'] s = true := by
  simp [SuffixMatcher.matchesStr]

theorem matches_add_star (ns : SuffixMatcher) (s : Str) :
    SuffixMatcher.matchesStr (SuffixMatcher.add ns ['*']) s = true := by
  rw [add_star _ _ (Or.inr (by simp))]
  exact matches_star s

def exportS : Str := ['e', 'x', 'p', 'o', 'r', 't']
theorem only_export_is_excepted : Gen.nospaceForcingExcept = [exportS] := rfl

theorem not_excepted {sh : Str} (hsh : sh ≠ exportS) : Gen.nospaceForcingExcept.elem sh = false := by
  rw [only_export_is_excepted]
  simpa using hsh

/-- **C05 (export).** the `export` format carries the set itself, unchanged -/
theorem C05_export (env : Env) (w : Str) (m : Meta) (vs : List RawValue) :
    (pipeline exportS env w m vs).1.nospace = m.nospace := by
  have h : Gen.nospaceForcingExcept.elem exportS = true := by
    rw [only_export_is_excepted]
    simp
  simp only [pipeline, h, if_true]

/-- **C05 (error entries force no-space).** when there are messages every value matches -/
theorem C05_messages_force (sh : Str) (hsh : sh ≠ exportS) (env : Env) (w : Str) (m : Meta)
    (vs : List RawValue) (hm : m.messages ≠ []) (s : Str) :
    SuffixMatcher.matchesStr (pipeline sh env w m vs).1.nospace s = true := by
  have h2 : m.messages.isEmpty = false := by simpa using hm
  simp only [pipeline, not_excepted hsh, h2, Bool.false_eq_true, if_false, Bool.not_false, if_true]
  exact matches_add_star _ s

/-- **C05 (CARAPACE_NOSPACE adds its characters).** -/
theorem C05_env_adds (sh : Str) (hsh : sh ≠ exportS) (env : Env) (w : Str) (m : Meta)
    (vs : List RawValue) (hm : m.messages = []) :
    (pipeline sh env w m vs).1.nospace =
      if env.nospaceEnv.isEmpty then m.nospace else SuffixMatcher.add m.nospace env.nospaceEnv := by
  simp only [pipeline, not_excepted hsh, hm, List.isEmpty_nil, Bool.not_true, Bool.false_eq_true, if_false]
  cases env.nospaceEnv.isEmpty <;> simp

/-- the formatters append the blank in a branch, the theorems state it as a suffix -/
theorem ite_append_blank (b : Bool) (v : Str) :
    (if b then v else v ++ [' ']) = v ++ (if b then [] else [' ']) := by
  cases b <;> simp

/-- elvish: `CodeSuffix` is empty iff the (sanitised) value matches -/
theorem C05_elvish (m : Meta) (vs : List RawValue) :
    (elvishRecs m vs).map (·.nospace) =
      vs.map (fun v => some (SuffixMatcher.matchesStr m.nospace (san Gen.elvish_sanitizer v.value))) := by
  simp [elvishRecs, List.map_map, Function.comp_def]

/-- bash-ble: the suffix field is empty iff the value matches -/
theorem C05_bashBle_line (m : Meta) (v : RawValue) :
    bashBleFormat m [v] =
      v.value ++ ['\t'] ++ v.display ++ fsS ++ fsS ++
        (if SuffixMatcher.matchesStr m.nospace v.value then [] else [' ']) ++ fsS ++ v.trimmed := by
  simp [bashBleFormat, Str.join]

/-- nushell: a blank follows the quoted value iff the sanitised value, *before* quoting, does not match -/
theorem C05_nushell (m : Meta) (v : RawValue) :
    ∃ q : Str, (nushellRecs m [v]).map (·.insert) =
      [q ++ (if SuffixMatcher.matchesStr m.nospace (san Gen.nushell_sanitizer v.value) then [] else [' '])] :=
  ⟨nushellQuote (san Gen.nushell_sanitizer v.value), by simp [nushellRecs, ite_append_blank]⟩

/-- powershell: likewise -/
theorem C05_powershell (m : Meta) (v : RawValue) (hv : v.value ≠ []) :
    ∃ q : Str, (powershellRecs m [v]).map (·.insert) =
      [q ++ (if SuffixMatcher.matchesStr m.nospace (san Gen.powershell_sanitizer v.value) then [] else [' '])] :=
  ⟨powershellQuote (san Gen.powershell_sanitizer v.value), by simp [powershellRecs, hv, ite_append_blank]⟩

/-- ion: likewise for the insert text -/
theorem C05_ion (m : Meta) (v : RawValue) :
    ∃ d : Str, (ionRecs m [v]) =
      [{ insert := san Gen.ion_sanitizer v.value ++
          (if SuffixMatcher.matchesStr m.nospace (san Gen.ion_sanitizer v.value) then [] else [' ']), display := d }] := by
  simp only [ionRecs, List.map_cons, List.map_nil, ite_append_blank]
  split <;> exact ⟨_, rfl⟩

/-- zsh: in the FULL quoting states no blank is ever appended -/
theorem C05_zsh_full (env : Env) (st : ZshState) (ns : SuffixMatcher) (v : Str)
    (hst : st = .fullQuoting ∨ st = .fullQuotingEscaping) :
    zshValueText env st ns v = zshInsert env st v := by
  rcases hst with rfl | rfl <;> simp [zshValueText]

/-- zsh, the other states -/
theorem C05_zsh (env : Env) (st : ZshState) (ns : SuffixMatcher) (v : Str)
    (hst : st ≠ .fullQuoting ∧ st ≠ .fullQuotingEscaping) :
    zshValueText env st ns v =
      zshInsert env st v ++ (if SuffixMatcher.matchesStr ns v then [] else [' ']) := by
  cases hm : SuffixMatcher.matchesStr ns v <;> cases st <;> simp_all [zshValueText]

/-- **C05 (xonsh) is false of the code** (finding `xonsh_nospace_after_quoting`): decided on the *quoted*
    text, `my dir/` with no-space `/` gets a blank -/
theorem C05_xonsh_counterexample :
    (xonshRecs { nospace := ['/'] } [{ value := "my dir/".toList, display := [] }]).map (·.insert)
      = ["'my dir/' ".toList] := by
  repeat rw [String.toList_ofList]
  decide

/-- xonsh, partial: a value that needs no quoting gets the right decision -/
theorem C05_xonsh_partial (m : Meta) (v : RawValue)
    (hq : Str.containsAny (san Gen.xonsh_sanitizer v.value) Gen.xonsh_ActionRawValues_containsAny = false) :
    (xonshRecs m [v]).map (·.insert) =
      [san Gen.xonsh_sanitizer v.value ++
        (if SuffixMatcher.matchesStr m.nospace (san Gen.xonsh_sanitizer v.value) then [] else [' '])] := by
  simp only [xonshRecs, xonshQuote, List.map_cons, List.map_nil, hq, Bool.false_eq_true, if_false, ite_append_blank]

/-- bash, one candidate: the one flag is that candidate's decision -/
theorem C05_bash_single (env : Env) (w : Str) (m : Meta) (v : RawValue) :
    ∃ t : Str, bashFormat env w m [v] =
      boolStr (SuffixMatcher.matchesStr m.nospace (Str.trimPrefix v.value env.bashPrefix)) ++ [Char.ofNat 1] ++ t := by
  simp [bashFormat, commonStep, Str.join]

/-- whenever the common-prefix step is taken the flag is set -/
theorem C05_bash_common_prefix (lastSegment dflt : Str) (vs : List RawValue) (ns : SuffixMatcher)
    (h : (commonStep lastSegment dflt vs).2 = true) (s : Str) :
    SuffixMatcher.matchesStr (if (commonStep lastSegment dflt vs).2 then SuffixMatcher.add ns ['*'] else ns) s = true := by
  rw [if_pos h]
  exact matches_add_star ns s

end Carapace.Props.C05

/-
  C16 — exactness of the listing for clean typed paths (`a/b/se`; the empty path and a trailing `/` included).  Where
  model and specification differ is the listed finding `files_unclean_dir_part` (`a//x`, `a/./x`, `a/../x`); `Plain`
  also excludes rooted paths and a leading `./` or `../`, on which they agree (evaluated, not proved).
  Paths are read through their segments: a leading `/` or `./`, a trailing `/` or `/.`, the text `.` would show as
  an empty segment or `.`.
-/
import Carapace.Props.C16

namespace Carapace.Props.C16
open Carapace.Model Carapace.Spec

/-- a directory segment as typed: not empty, not `.`, not `..`, no separator -/
def Plain (s : Str) : Prop := s ≠ [] ∧ s ≠ ['.'] ∧ s ≠ ['.', '.'] ∧ '/' ∉ s
/-- the last, partial segment: possibly empty -/
def SegOk (s : Str) : Prop := s ≠ ['.'] ∧ s ≠ ['.', '.'] ∧ '/' ∉ s

instance (s : Str) : Decidable (Plain s) := by unfold Plain; infer_instance
instance (s : Str) : Decidable (SegOk s) := by unfold SegOk; infer_instance

theorem Plain.ne_nil {s : Str} (h : Plain s) : s ≠ [] := h.1
theorem Plain.ne_dot {s : Str} (h : Plain s) : s ≠ ['.'] := h.2.1
theorem Plain.ne_dotdot {s : Str} (h : Plain s) : s ≠ ['.', '.'] := h.2.2.1
theorem Plain.no_slash {s : Str} (h : Plain s) : '/' ∉ s := h.2.2.2
theorem SegOk.ne_dot {s : Str} (h : SegOk s) : s ≠ ['.'] := h.1
theorem SegOk.no_slash {s : Str} (h : SegOk s) : '/' ∉ s := h.2.2
theorem SegOk.plain {s : Str} (h : SegOk s) (hne : s ≠ []) : Plain s := ⟨hne, h⟩

theorem splitOnChar_join : ∀ (ss : List Str), ss ≠ [] → (∀ s ∈ ss, '/' ∉ s) →
    Str.splitOnChar '/' (Str.join ['/'] ss) = ss :=
  Str.splitOnChar_join '/'

theorem pathSegs_append (a s : Str) : pathSegs (a ++ '/' :: s) = pathSegs a ++ pathSegs s :=
  Str.splitOnChar_append_cons '/' a s

theorem pathSegs_seg (s : Str) (h : '/' ∉ s) : pathSegs s = [s] := Str.splitOnChar_no '/' s h

theorem pathSegs_join {ss : List Str} (hne : ss ≠ []) (h : ∀ s ∈ ss, '/' ∉ s) : pathSegs (Str.join ['/'] ss) = ss :=
  splitOnChar_join ss hne h

/-- what stands in front of the first separator is a directory: one of the segments but the last -/
theorem first_dir {p x s : Str} (hx : '/' ∉ x) (h : p = x ++ '/' :: s) : x ∈ (pathSegs p).dropLast := by
  rw [h, pathSegs, Str.splitOnChar_append '/' x s hx, List.dropLast_cons_of_ne_nil (Str.splitOnChar_ne_nil '/' s)]
  exact List.mem_cons_self

/-- what stands behind the last separator is the last segment -/
theorem last_seg {p t s : Str} (hs : '/' ∉ s) (h : p = t ++ '/' :: s) : (pathSegs p).getLast? = some s := by
  rw [h, pathSegs_append, pathSegs_seg s hs, List.getLast?_concat]

theorem hasSuffix_lastSeg (P0 seg s : Str) (hseg : '/' ∉ seg) (hs : '/' ∉ s) :
    Str.hasSuffix (P0 ++ '/' :: seg) ('/' :: s) = decide (seg = s) := by
  rw [Bool.eq_iff_iff, decide_eq_true_iff, Str.hasSuffix_iff_suffix]
  constructor
  · rintro ⟨t, ht⟩
    exact Option.some.inj ((last_seg hseg rfl).symm.trans (last_seg hs ht.symm))
  · rintro rfl
    exact ⟨P0, rfl⟩

section
variable {p : Str} (h : ∀ s ∈ (pathSegs p).dropLast, Plain s)
include h

theorem not_rooted_of_dirs : (p.head? == some '/') = false := by
  cases p with
  | nil => rfl
  | cons c s =>
    have hc : c ≠ '/' := by rintro rfl; exact (h [] (first_dir (by simp) rfl)).ne_nil rfl
    simpa using hc

theorem no_dotslash_of_dirs : Str.hasPrefix p ['.', '/'] = false := by
  cases hp : Str.hasPrefix p ['.', '/'] with
  | false => rfl
  | true =>
    obtain ⟨s, hs⟩ := Str.hasPrefix_iff_prefix.mp hp
    exact absurd rfl (h ['.'] (first_dir (x := ['.']) (by simp) hs.symm)).ne_dot

end

section
variable {p : Str} (h : ∀ s ∈ pathSegs p, Plain s)
include h

theorem ne_nil_of_plain : p ≠ [] := by
  rintro rfl
  exact (h [] (by simp [pathSegs_seg])).ne_nil rfl

theorem ne_dot_of_plain : p ≠ ['.'] := by
  rintro rfl
  exact (h ['.'] (by simp [pathSegs_seg])).ne_dot rfl

theorem no_trailing_slash_of_plain : Str.hasSuffix p ['/'] = false := by
  cases hs : Str.hasSuffix p ['/'] with
  | false => rfl
  | true =>
    obtain ⟨t, ht⟩ := Str.hasSuffix_iff_suffix.mp hs
    exact absurd rfl (h [] (List.mem_of_getLast? (last_seg (by simp) ht.symm))).ne_nil

end

theorem plain_join (ss : List Str) (hne : ss ≠ []) (hss : ∀ s ∈ ss, Plain s) :
    ∀ s ∈ pathSegs (Str.join ['/'] ss), Plain s := by
  rw [pathSegs_join hne fun s hs => (hss s hs).no_slash]
  exact hss

/-- `filepath.Clean` folds a step over the segments; all that is used of the step: it appends a plain segment -/
theorem pathClean_fold (p : Str) (hp : p ≠ []) :
    ∃ step : List Str → Str → List Str, (∀ acc s, Plain s → step acc s = acc ++ [s]) ∧ pathClean p =
      (let body := Str.join ['/'] ((pathSegs p).foldl step [])
       if (p.head? == some '/') = true then '/' :: body else if body.isEmpty then ['.'] else body) := by
  simp only [pathClean, List.isEmpty_iff, hp, if_false]
  refine ⟨_, ?_, rfl⟩
  intro acc s hs
  simp [hs.ne_nil, hs.ne_dot, hs.ne_dotdot]

theorem foldl_plain {step : List Str → Str → List Str} (hstep : ∀ acc s, Plain s → step acc s = acc ++ [s])
    (ss : List Str) (hss : ∀ s ∈ ss, Plain s) : ∀ acc, ss.foldl step acc = acc ++ ss := by
  induction ss with
  | nil => intro acc; simp
  | cons x r ih =>
    intro acc
    rw [List.foldl_cons, hstep acc x (hss x (by simp)), ih (fun s hs => hss s (List.mem_cons_of_mem _ hs))]
    simp

theorem pathClean_plain (ss : List Str) (hne : ss ≠ []) (hss : ∀ s ∈ ss, Plain s) :
    pathClean (Str.join ['/'] ss) = Str.join ['/'] ss := by
  have hJ := plain_join ss hne hss
  have hsegs := pathSegs_join hne fun s hs => (hss s hs).no_slash
  obtain ⟨step, hstep, h⟩ := pathClean_fold _ (ne_nil_of_plain hJ)
  simp [h, not_rooted_of_dirs fun s hs => hJ s (List.dropLast_subset _ hs), hsegs, foldl_plain hstep ss hss [], ne_nil_of_plain hJ]

theorem clean_ends (P0 seg : Str) (hne : seg ≠ []) (hseg : SegOk seg) :
    ∃ Q, pathClean (P0 ++ '/' :: seg) = Q ++ seg ∧ (Q = [] ∨ Q.getLast? = some '/') := by
  obtain ⟨step, hstep, h⟩ := pathClean_fold (P0 ++ '/' :: seg) (by simp)
  rw [h, pathSegs_append, pathSegs_seg seg hseg.no_slash, List.foldl_append, List.foldl_cons,
    List.foldl_nil, hstep _ _ (hseg.plain hne), Str.join_snoc]
  generalize (pathSegs P0).foldl step [] = R
  generalize ((P0 ++ '/' :: seg).head? == some '/') = rooted
  refine ⟨(if rooted then ['/'] else []) ++ (if R = [] then [] else Str.join ['/'] R ++ ['/']), ?_, ?_⟩
  · cases rooted <;> by_cases hR : R = [] <;> simp [hR, hne]
  · cases rooted <;> by_cases hR : R = [] <;> simp [hR, List.getLast?_cons]

/-- the typed path: directory segments `ss`, then the partial segment -/
def typedOf (ss : List Str) (seg : Str) : Str := Str.join ['/'] (ss ++ [seg])

theorem pathSegs_typed (ss : List Str) (seg : Str) (hss : ∀ s ∈ ss, Plain s) (hseg : SegOk seg) :
    pathSegs (typedOf ss seg) = ss ++ [seg] := by
  apply pathSegs_join (by simp)
  intro s hs
  rcases List.mem_append.mp hs with h | h
  · exact (hss s h).no_slash
  · rw [List.mem_singleton.mp h]; exact hseg.no_slash

theorem typed_dirs (ss : List Str) (seg : Str) (hss : ∀ s ∈ ss, Plain s) (hseg : SegOk seg) :
    ∀ s ∈ (pathSegs (typedOf ss seg)).dropLast, Plain s := by
  rw [pathSegs_typed ss seg hss hseg, List.dropLast_concat]
  exact hss

theorem typedOf_eq (ss : List Str) (seg : Str) :
    typedOf ss seg = if ss = [] then seg else Str.join ['/'] ss ++ '/' :: seg := by
  simp [typedOf, Str.join_snoc]

theorem typed_split (ss : List Str) (seg : Str) : typedOf ss seg = typedOf ss [] ++ seg := by
  rw [typedOf_eq, typedOf_eq ss []]
  by_cases h : ss = [] <;> simp [h]

theorem splitTyped_of_segs {t : Str} {R : List Str} {s : Str} (h : pathSegs t = R ++ [s]) :
    splitTyped t = (Str.join ['/'] (R ++ [[]]), s) := by
  simp only [splitTyped, show Str.splitOnChar '/' t = R ++ [s] from h, List.reverse_append, Str.join_snoc]
  rcases R.eq_nil_or_concat with rfl | ⟨R', y, rfl⟩ <;> simp

theorem splitTyped_typed (ss : List Str) (seg : Str) (hss : ∀ s ∈ ss, Plain s) (hseg : SegOk seg) :
    splitTyped (typedOf ss seg) = (typedOf ss [], seg) :=
  splitTyped_of_segs (pathSegs_typed ss seg hss hseg)

theorem pathDir_typed (ss : List Str) (seg : Str) (hss : ∀ s ∈ ss, Plain s) (hseg : SegOk seg) :
    pathDir (typedOf ss seg) = if ss = [] then ['.'] else Str.join ['/'] ss := by
  simp only [pathDir, pathSegs_typed ss seg hss hseg, List.dropLast_concat, List.length_append, List.length_singleton]
  by_cases hne : ss = []
  · simp [hne]
  · have hlen : ¬ ss.length + 1 ≤ 1 := by cases ss <;> simp_all
    simp only [hlen, hne, if_false, List.isEmpty_iff, ne_nil_of_plain (plain_join ss hne hss)]
    exact pathClean_plain ss hne hss

/-- `displayFolder` of `actionPathValues` is the typed directory part -/
theorem displayFolder_typed (ss : List Str) (seg : Str) (hss : ∀ s ∈ ss, Plain s) (hseg : SegOk seg) :
    (let df := pathDir (typedOf ss seg)
     if df == ['.'] then [] else if Str.hasSuffix df ['/'] then df else df ++ ['/']) = (splitTyped (typedOf ss seg)).1 := by
  simp only [splitTyped_typed ss seg hss hseg, typedOf_eq ss [], pathDir_typed ss seg hss hseg]
  by_cases hne : ss = []
  · simp [hne]
  · have hJ := plain_join ss hne hss
    simp [hne, ne_dot_of_plain hJ, no_trailing_slash_of_plain hJ]

theorem base_of_ends (Q seg : Str) (hne : seg ≠ []) (hsl : '/' ∉ seg) (hQ : Q = [] ∨ Q.getLast? = some '/') :
    pathBase (Q ++ seg) = seg ∧ Str.hasSuffix (Q ++ seg) ['/'] = false := by
  -- the last character of `seg` is no separator: `filepath.Base` has nothing to strip
  obtain ⟨init, l, rfl⟩ : ∃ init l, seg = init ++ [l] := ⟨_, _, (List.dropLast_concat_getLast hne).symm⟩
  have hl : l ≠ '/' := by rintro rfl; exact hsl (by simp)
  have hsegs : (pathSegs (Q ++ (init ++ [l]))).getLast? = some (init ++ [l]) := by
    rcases hQ with rfl | hQ
    · simp [pathSegs_seg _ hsl]
    · obtain ⟨Q', rfl⟩ := List.getLast?_eq_some_iff.mp hQ
      exact last_seg hsl (List.append_assoc ..)
  constructor
  · simp [pathBase, hl, hsegs]
  · simp [Str.hasSuffix_singleton, hl]

theorem slash_typed (ss : List Str) (seg : Str) : ∃ X, '/' :: typedOf ss seg = X ++ '/' :: seg := by
  rw [typedOf_eq]
  split
  · exact ⟨[], rfl⟩
  · exact ⟨'/' :: Str.join ['/'] ss, rfl⟩

/-- `showHidden` of `actionPathValues` is decided by the typed last segment alone -/
theorem showHidden_typed (dir : Str) (ss : List Str) (seg : Str) (hss : ∀ s ∈ ss, Plain s) (hseg : SegOk seg) :
    (!Str.hasSuffix (ctxAbs dir (typedOf ss seg)) ['/'] && Str.hasPrefix (pathBase (ctxAbs dir (typedOf ss seg))) ['.'])
      = Str.hasPrefix seg ['.'] := by
  unfold ctxAbs
  simp only [not_rooted_of_dirs (typed_dirs ss seg hss hseg), Bool.false_eq_true, if_false]
  -- the path handed to `filepath.Abs` is `P0/seg`
  obtain ⟨P0, hP0⟩ : ∃ P0, (if dir.isEmpty = true then "./".toList ++ typedOf ss seg else dir ++ ['/'] ++ typedOf ss seg)
      = P0 ++ '/' :: seg := by
    obtain ⟨X, hX⟩ := slash_typed ss seg
    split
    · exact ⟨'.' :: X, by simp [hX]⟩
    · exact ⟨dir ++ X, by simp [hX]⟩
  rw [hP0]
  simp only [hasSuffix_lastSeg P0 seg [] hseg.no_slash (by simp), hasSuffix_lastSeg P0 seg ['.'] hseg.no_slash (by simp),
    hseg.ne_dot, decide_false, Bool.false_and, Bool.false_eq_true, if_false]
  by_cases hne : seg = []
  · -- a trailing separator (or nothing typed): `Context.Abs` keeps it
    subst hne
    cases hr : Str.hasSuffix (pathClean (P0 ++ ['/'])) ['/'] with
    | true => simp [hr, Str.hasPrefix]
    | false => simp [Str.hasSuffix_iff_suffix.mpr ⟨_, rfl⟩, Str.hasPrefix]
  · -- a partial last segment: it is the base name of the absolute path
    obtain ⟨Q, hQ, hQ2⟩ := clean_ends P0 seg hne hseg
    obtain ⟨hb, hsf⟩ := base_of_ends Q seg hne hseg.no_slash hQ2
    simp [hne, hQ, hb, hsf]

/-- **C16 (values).** For a clean typed path, any Context directory and any listing, `actionPath` puts the typed
    directory part, exactly as typed, in front of every name and shows dot-entries iff the typed segment starts with a dot. -/
theorem C16_values_clean (dir : Str) (ss : List Str) (seg : Str) (hss : ∀ s ∈ ss, Plain s) (hseg : SegOk seg)
    (entries : List DirEntry) (dirOnly : Bool) (suffixes : List Str) :
    actionPathValues dir (typedOf ss seg) entries dirOnly suffixes =
      entries.filterMap (entryValue (Str.hasPrefix seg ['.']) dirOnly (if suffixes.isEmpty then [[]] else suffixes)
        (splitTyped (typedOf ss seg)).1) := by
  unfold actionPathValues
  simp only [no_dotslash_of_dirs (typed_dirs ss seg hss hseg), Bool.false_eq_true, if_false]
  rw [showHidden_typed dir ss seg hss hseg, ← displayFolder_typed ss seg hss hseg]

/-- **C16 (exactness).** For a clean typed path the values `actionPath` yields that continue what was typed are
    exactly the listing specification. -/
theorem C16_exact (dir : Str) (ss : List Str) (seg : Str) (hss : ∀ s ∈ ss, Plain s) (hseg : SegOk seg)
    (entries : List DirEntry) (dirOnly : Bool) (suffixes : List Str) :
    (actionPathValues dir (typedOf ss seg) entries dirOnly suffixes).filter (fun v => Str.hasPrefix v (typedOf ss seg))
      = listing (typedOf ss seg) entries dirOnly suffixes := by
  rw [C16_values_clean dir ss seg hss hseg, splitTyped_typed ss seg hss hseg]
  exact listing_of_values _ _ _ (splitTyped_typed ss seg hss hseg) (typed_split ss seg) hseg.no_slash _ _ _

/-- non-vacuity: `a/b/.h`, the empty path and `a/` are clean typed paths -/
example : (∀ s ∈ ["a".toList, "b".toList], Plain s) ∧ SegOk ".h".toList ∧ typedOf ["a".toList, "b".toList] ".h".toList = "a/b/.h".toList
    ∧ SegOk [] ∧ typedOf [] [] = [] ∧ typedOf ["a".toList] [] = "a/".toList := by
  decide

end Carapace.Props.C16

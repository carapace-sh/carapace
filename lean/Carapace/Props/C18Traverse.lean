/-
  C18: the two slice expressions of traverse.go whose bounds depend on the typed line
  (DESIGN.md appendix D, "needs-invariant"), stated over the traverse model:
    traverse.go `toParse[:len(toParse)-1]`            - needs `toParse` not empty
    traverse.go `Prefix[strings.LastIndex(Prefix, Shorthand):]` - needs the shorthand to occur in the prefix
-/
import Carapace.Props.C18TraverseG
import Carapace.Props.C01Slots
import Carapace.Props.C01Fork

namespace Carapace.Props.C18
open Carapace.Model Carapace.Props.C01 Carapace.Props.C01Fork

/-- what `lookupPosixShorthandArg` returns carries the flag's shorthand letter inside its prefix,
    so `strings.LastIndex(Prefix, Shorthand)` is never -1 -/
theorem C18_series_prefix_contains_shorthand (fs : FlagSet) :
    ∀ (cs pre : Str) (fd : Found), lookupPosixShort fs pre cs = some fd →
      ∃ c, fd.flag.short = some c ∧ c ∈ fd.prefix_ := by
  intro cs pre fd h
  -- the POSIX look-up is the general one on the embedded flag set
  have hG : lookupPosixShortG (fs.map embed) pre cs = some (embedFound fd) := by rw [lookupPosixShortG_posix, h]; rfl
  exact C18G_series_prefix_contains_shorthand (fs.map embed) cs pre (embedFound fd) hG

theorem lastIndexOfChar_of_mem {s : Str} {c : Char} (h : c ∈ s) : ∃ k, lastIndexOfChar s c = some k ∧ k < s.length := by
  obtain ⟨i, hi, hget⟩ := List.getElem_of_mem h
  -- the list of its positions is not empty
  have hin : i ∈ (List.range s.length).filter (fun j => s[j]? == some c) := by
    simp [List.mem_filter, hi, hget]
  obtain ⟨k, hk⟩ := Option.isSome_iff_exists.mp (List.getLast?_isSome.mpr (List.ne_nil_of_mem hin))
  exact ⟨k, hk, List.mem_range.mp (List.mem_filter.mp (List.mem_of_getLast? hk)).1⟩

/-- the cut position of the final fix-up exists -/
theorem C18_series_cut_exists (fs : FlagSet) (c : Char) (rest : Str) (lf : Found)
    (h : lookupArg fs ('-' :: c :: rest) = some lf) (hc : c ≠ '-') :
    ∃ sc k, lf.flag.short = some sc ∧ lastIndexOfChar lf.prefix_ sc = some k ∧ k < lf.prefix_.length := by
  rw [lookupArg_short hc] at h
  obtain ⟨sc, hsc, hmem⟩ := C18_series_prefix_contains_shorthand fs (c :: rest) ['-'] lf h
  obtain ⟨k, hk, hlt⟩ := lastIndexOfChar_of_mem hmem
  exact ⟨sc, k, hsc, hk, hlt⟩

/-- `toParse[:len(toParse)-1]`: the branch that removes the last word is taken only when a flag waits for
    its value, and then that flag word is the last of the words - the slice is never taken of an empty list -/
theorem C18_toParse_nonempty {t : TTree} {c : Nat} {cs : TCmd} (fs : FlagSet) (ws : List Str) (hnc : NoChild t c ws)
    (st : LoopState) (b : Bool) (hl : loop t c cs fs ws {} = .done st b)
    (fd : Found) (hfd : st.inFlag = some fd) (hc : (fd.args.isEmpty && consumes fd) = true) :
    st.inArgs ≠ [] := by
  obtain ⟨st', b', hl', hin, hp⟩ := loop_stay_init cs fs hnc
  rw [hl] at hl'
  cases hl'
  have hcon : consumes fd = true := (Bool.and_eq_true_iff.mp hc).2
  obtain ⟨ws0, a, hws, -, -⟩ := hp fd hfd hcon
  rw [hin, hws]
  simp

end Carapace.Props.C18

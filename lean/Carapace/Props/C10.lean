/-
  C10 — completion output is deterministic, byte for byte.
  The candidate order is total (display text, ties broken by value): the sorted result is the same list whatever
  order a Go map iteration or a goroutine schedule delivers the candidates in and whichever sorting algorithm is used.
-/
import Carapace.Model.Actions
import Carapace.Lemmas.Actions

namespace Carapace.Props.C10
open Carapace.Model

theorem str_eq_of_not_lt : ∀ (s t : Str), Str.lt s t = false → Str.lt t s = false → s = t
  | [], [], _, _ => rfl
  | [], _ :: _, h, _ => by simp [Str.lt] at h
  | _ :: _, [], _, h => by simp [Str.lt] at h
  | a :: s, b :: t, h1, h2 => by
    simp only [Str.lt, Bool.or_eq_false_iff, decide_eq_false_iff_not, Nat.not_lt] at h1 h2
    obtain rfl : a = b := Char.toNat_inj.mp (Nat.le_antisymm h2.1 h1.1)
    rw [str_eq_of_not_lt s t (by simpa using h1.2) (by simpa using h2.2)]

/-- "a is not after b" in the candidate order -/
def le (a b : RawValue) : Prop := byDisplayLt b a = false

theorem le_antisymm_key (a b : RawValue) (h1 : le a b) (h2 : le b a) :
    a.display = b.display ∧ a.value = b.value := by
  simp only [le, byDisplayLt, Bool.or_eq_false_iff] at h1 h2
  have hd : a.display = b.display := str_eq_of_not_lt _ _ h2.1 h1.1
  exact ⟨hd, str_eq_of_not_lt _ _ (by simpa [hd] using h2.2) (by simpa [hd] using h1.2)⟩

/-- **C10 (order).** Two sorted arrangements of the same candidates are the same list, provided candidates that
    agree on display and value are equal (true after `Unique`).  `xs ~ ys` covers every map iteration order and
    schedule; "sorted" covers every sorting algorithm. -/
theorem C10_sorted_unique (xs ys : List RawValue) (hperm : xs.Perm ys)
    (hx : xs.Pairwise le) (hy : ys.Pairwise le)
    (hkey : ∀ a ∈ xs, ∀ b ∈ xs, a.display = b.display → a.value = b.value → a = b) : xs = ys := by
  apply List.Perm.eq_of_pairwise (le := le) _ hx hy hperm
  intro a b ha hb h1 h2
  have hb' : b ∈ xs := hperm.symm.subset hb
  obtain ⟨hd, hv⟩ := le_antisymm_key a b h1 h2
  exact hkey a ha b hb' hd hv

/-- after `Unique` (a map keyed by value) the key condition holds -/
theorem C10_unique_key (vs : List RawValue) :
    ∀ a ∈ uniqueByValue vs, ∀ b ∈ uniqueByValue vs, a.display = b.display → a.value = b.value → a = b := by
  intro a ha b hb _ hv
  -- the values of the members are pairwise different, so `a` can stand neither before nor after `b`
  have hnd := List.pairwise_map.mp (uniqueByValue_nodup vs)
  exact List.Pairwise.forall_of_forall_of_flip (R := fun x y => x.value = y.value → x = y) (fun _ _ _ => rfl)
    (hnd.imp fun hne hv => absurd hv hne) (hnd.imp fun hne hv => absurd hv.symm hne) ha hb hv

/-- which record survives `Unique` does not depend on iteration order either: the last one written for its value
    (slice order, which C09 settles) -/
theorem C10_unique_last_wins (v : RawValue) (r : List RawValue) (h : r.any (fun x => x.value == v.value) = false) :
    v ∈ uniqueByValue (v :: r) := by
  simp [uniqueByValue_cons, h]

end Carapace.Props.C10

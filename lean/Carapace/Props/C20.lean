/-
  C20 — the cobra bridge serves the same completions in both directions.
  Theorems about the model of compat.go; which position cobra asks for is decided on the real code (op `ccomplete`).
-/
import Carapace.Model.Bridge
import Carapace.Lemmas.Str

namespace Carapace.Props.C20
open Carapace.Model

theorem splitTab_no (a : Str) (h : '\t' ∉ a) : splitTab a = (a, []) := by
  rw [splitTab, Str.cutChar_no _ _ h]

theorem splitTab_append (a b : Str) (h : '\t' ∉ a) : splitTab (a ++ ['\t'] ++ b) = (a, b) := by
  rw [splitTab, List.append_assoc, List.singleton_append, Str.cutChar_append _ _ _ h]

/-- **values and descriptions intact** (carapace -> cobra): splitting each served line at the first tab
    recovers value and description, for any description and any value without a tab -/
theorem C20_values (r : Invoked) (h : ∀ v ∈ r.2, '\t' ∉ v.value) :
    (cobraValuesFor r).map splitTab =
      r.2.map (fun v => (v.value, v.description)) := by
  simp only [cobraValuesFor, List.map_map]
  apply List.map_congr_left
  intro v hv
  simp only [Function.comp]
  split
  · rename_i hd
    rw [splitTab_no _ (h v hv), List.isEmpty_iff.mp hd]
  · exact splitTab_append _ _ (h v hv)

/-- **NoSpace iff a served value has a no-space suffix; file completion always disabled** -/
theorem C20_nospace_iff (r : Invoked) :
    hasBit (cobraDirectiveFor r) dNoFileComp = true ∧
    (hasBit (cobraDirectiveFor r) dNoSpace = true ↔ ∃ v ∈ r.2, SuffixMatcher.matchesStr r.1.nospace v.value = true) := by
  -- the directive depends on the values only through one Boolean
  unfold cobraDirectiveFor
  rw [← List.any_eq_true]
  cases r.2.any (fun v => SuffixMatcher.matchesStr r.1.nospace v.value) <;> decide

/-- the specification of how the directives are honoured, read off the property -/
def specKind (d : Nat) (noValues : Bool) : Nat :=
  -- 0 error, 1 dirs, 2 fileExt, 3 files, 4 values
  if hasBit d dError then 0
  else if hasBit d dFilterDirs then 1
  else if hasBit d dFilterFileExt then 2
  else if noValues && !hasBit d dNoFileComp then 3
  else 4

def kindCode : BridgeKind → Nat
  | .error => 0 | .dirs _ => 1 | .fileExt _ => 2 | .files => 3 | .values _ => 4

/-- **the kind of completion**: `ToA` chooses the kind the specification prescribes -/
theorem C20_directive_kind (d : Nat) (vs : List Str) :
    kindCode (directiveToA d vs).1 = specKind d vs.isEmpty := by
  -- code and first component taken branch by branch, both sides are the same chain of tests
  simp only [directiveToA, specKind, apply_ite Prod.fst, apply_ite kindCode]
  rfl

/-- **the directive table**: its 64 instances, with and without values -/
theorem C20_directive_table :
    (List.range 64).all (fun d =>
      kindCode (directiveToA d []).1 == specKind d true &&
      kindCode (directiveToA d ["v".toList]).1 == specKind d false) = true := by
  simp only [List.all_eq_true, Bool.and_eq_true, beq_iff_eq]
  exact fun d _ => ⟨C20_directive_kind d [], C20_directive_kind d _⟩

/-- values served by a cobra function reach carapace with value and description intact -/
theorem C20_values_from_cobra (d : Nat) (vs : List Str)
    (h : hasBit d dError = false ∧ hasBit d dFilterDirs = false ∧ hasBit d dFilterFileExt = false)
    (hv : vs ≠ []) :
    (directiveToA d vs).1 = .values (vs.map splitTab) := by
  simp [directiveToA, h, hv]

/-- NoSpace is honoured with every directive that signals no error, also FilterFileExt, which does not
    return early (repair e3d5247) -/
theorem C20_nospace_honoured_all (d : Nat) (vs : List Str) (h : hasBit d dError = false) :
    (directiveToA d vs).2 = hasBit d dNoSpace := by
  simp only [directiveToA, h, Bool.false_eq_true, if_false, apply_ite Prod.snd, ite_self]

/-- its 64 instances, with a value and without -/
theorem C20_nospace_honoured :
    (List.range 64).all (fun d =>
      hasBit d dError ||
      ((directiveToA d ["v".toList]).2 == hasBit d dNoSpace && (directiveToA d []).2 == hasBit d dNoSpace)) = true := by
  simp only [List.all_eq_true, Bool.or_eq_true, Bool.and_eq_true, beq_iff_eq]
  intro d _
  cases h : hasBit d dError
  · exact .inr ⟨C20_nospace_honoured_all d _ h, C20_nospace_honoured_all d _ h⟩
  · exact .inl rfl

end Carapace.Props.C20

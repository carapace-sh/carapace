/-
  C18 — the completion entry point is total.
  Proved here: the functions on the entry path whose slice / index arithmetic depends on user text (`Model/Entry.lean`,
  in `Except Panic`) never panic.  The inventory of index / slice sites is regenerated from /repo on every run
  (`Gen/IndexSites.lean`); `C18_sites_covered` pins it to the list these proofs and the review in DESIGN.md appendix D
  were made for.  The entry point as a whole is decided on the real code by child processes (op `entry`).
-/
import Carapace.Model.Entry
import Carapace.Lemmas.Str
import Carapace.Gen.IndexSites
import Carapace.Props.C18Sites

namespace Carapace.Props.C18
open Carapace.Model

theorem sliceTo_ok {α} (l : List α) (n : Int) (h : 0 ≤ n ∧ n ≤ (l.length : Int)) :
    sliceTo l n = .ok (l.take n.toNat) := if_pos h

theorem sliceFrom_ok {α} (l : List α) (n : Int) (h : 0 ≤ n ∧ n ≤ (l.length : Int)) :
    sliceFrom l n = .ok (l.drop n.toNat) := if_pos h

theorem indexP_ok {α} {l : List α} {i : Nat} {a : α} (h : l[i]? = some a) : indexP l i = .ok a := by
  simp [indexP, h]

/-- with these two the totality proofs follow the shape of the definitions -/
theorem ok_bind {α β} {x : P α} {f : α → P β} {a : α} (hx : x = .ok a) (hf : ∃ b, f a = .ok b) :
    ∃ b, (x >>= f) = .ok b := by
  subst hx
  exact hf

theorem ok_ite {α} {c : Prop} [Decidable c] {x y : P α} (hx : ∃ a, x = .ok a) (hy : ∃ a, y = .ok a) :
    ∃ a, (if c then x else y) = .ok a := by
  split <;> assumption

theorem compLine_some (l : List Nat) (p : Str) :
    compLine (some l) (some p) =
      .ok ((atoi p).bind fun i => if 0 ≤ i ∧ i ≤ (l.length : Int) then some (l.take i.toNat) else none) := by
  simp only [compLine]
  cases atoi p with
  | none => rfl
  | some i =>
    simp only [Option.bind_some]
    by_cases h : 0 ≤ i ∧ i ≤ (l.length : Int)
    · rw [if_pos h, sliceTo_ok l i h, if_neg (by simp; omega)]
      rfl
    · rw [if_neg h, if_pos (by simp; omega)]

/-- **bash.CompLine never panics**, whatever COMP_LINE and COMP_POINT hold (unset, not a number, negative, beyond
    the line, beyond int64) -/
theorem C18_compLine_total (line : Option (List Nat)) (point : Option Str) :
    ∃ r, compLine line point = .ok r :=
  match line, point with
  | some l, some p => ⟨_, compLine_some l p⟩
  | some _, none => ⟨none, rfl⟩
  | none, _ => ⟨none, rfl⟩

theorem C18_compLine_prefix (l : List Nat) (p : Str) (r : List Nat)
    (h : compLine (some l) (some p) = .ok (some r)) : ∃ i : Nat, atoi p = some (i : Int) ∧ r = l.take i := by
  rw [compLine_some, Except.ok.injEq, Option.bind_eq_some_iff] at h
  obtain ⟨i, ha, hi⟩ := h
  obtain ⟨hc, hr⟩ := Option.ite_none_right_eq_some.mp hi
  exact ⟨i.toNat, by rw [ha, Int.toNat_of_nonneg hc.1], (Option.some.inj hr).symm⟩

/-- **TrimmedDescription never panics** and is the total function the formatter theorems use, for any limit ≥ 3 -/
theorem C18_trimmed_total (m : Nat) (hm : 3 ≤ m) (d : Str) :
    trimmedDescriptionP m d = .ok (trimmedDescription m d) := by
  unfold trimmedDescriptionP trimmedDescription
  dsimp only
  split
  · next hlen =>
    rw [sliceTo_ok _ ((m : Int) - 3) (by omega), show ((m : Int) - 3).toNat = m - 3 from Int.toNat_sub m 3]
    rfl
  · rfl

theorem C18_trimmed_source (d : Str) :
    trimmedDescriptionP Gen.common_maxLength d = .ok (trimmedDescription Gen.common_maxLength d) :=
  C18_trimmed_total _ (by decide) d

/-- with a limit below 3 the slice bound is negative: the `Except` model can fail, the theorems are not vacuous -/
theorem C18_trimmed_small_limit_panics :
    trimmedDescriptionP 2 "abcd".toList = .error .sliceBounds := by
  repeat rw [String.toList_ofList]
  decide

theorem splitN2_eq (c : Char) (s : Str) : splitN2 c s = (Str.cutChar c s).1 :: (Str.cutChar c s).2.toList := by
  unfold splitN2
  cases Str.cutChar c s with
  | mk a b => cases b <;> rfl

theorem splitN2_head (c : Char) (s : Str) : ∃ a, (splitN2 c s)[0]? = some a := by
  rw [splitN2_eq]
  exact ⟨_, rfl⟩

/-- the second half is the guarantee `Replace` relies on -/
theorem ndMatch_ok (nd : NamedDirs) (s : Str) : ∃ m, ndMatch nd s = .ok m ∧ (m.isEmpty = false → '/' ∈ s) := by
  unfold ndMatch
  split
  · next h =>
    simp only [Bool.and_eq_true] at h
    have hs : '/' ∈ s := by simpa using h.2
    -- the first piece of a string that starts with `~` starts with `~`, so `[1:]` is in range
    obtain ⟨r, rfl⟩ := Str.hasPrefix_cons h.1.1
    rw [splitN2_eq, Str.cutChar_cons_ne '/' '~' r (by decide)]
    refine Exists.imp (fun _ hm => ⟨hm, fun _ => hs⟩) ?_
    refine ok_bind (indexP_ok rfl) ?_
    refine ok_bind (sliceFrom_ok _ 1 (by simp only [List.length_cons]; omega)) ?_
    exact ⟨_, rfl⟩
  · exact ⟨[], rfl, fun h => absurd h (by decide)⟩

theorem C18_ndMatch_total (nd : NamedDirs) (s : Str) : ∃ m, ndMatch nd s = .ok m :=
  (ndMatch_ok nd s).imp fun _ h => h.1

/-- **Replace never panics**: `strings.SplitN(s, "/", 2)[1]` is reached only after a match -/
theorem C18_ndReplace_total (nd : NamedDirs) (s : Str) : ∃ r, ndReplace nd s = .ok r := by
  obtain ⟨m, hm, hslash⟩ := ndMatch_ok nd s
  refine ok_bind hm ?_
  cases he : m.isEmpty with
  | true => exact ⟨s, rfl⟩
  | false =>
    obtain ⟨a, t, hs⟩ := Str.cutChar_some_of_mem '/' s (hslash he)
    rw [splitN2_eq, hs]
    exact ok_bind (indexP_ok rfl) ⟨_, rfl⟩

theorem C18_expandHome_total (nd : NamedDirs) (home s : Str) : ∃ r, expandHome nd home s = .ok r :=
  have ⟨_, hm⟩ := C18_ndMatch_total nd s
  ok_ite (ok_bind hm (ok_ite (C18_ndReplace_total nd s) (ok_ite ⟨_, rfl⟩ ⟨_, rfl⟩))) ⟨_, rfl⟩

/-- **Context.Abs never panics**, for any word (`~`, `~name`, `~name/..`, anything else) -/
theorem C18_abs_total (nd : NamedDirs) (home cwd dir path : Str) : ∃ r, absP nd home cwd dir path = .ok r :=
  have ⟨_, hp⟩ := C18_expandHome_total nd home _
  ok_bind hp (ok_ite ⟨_, rfl⟩ (ok_ite ⟨_, rfl⟩ ⟨_, rfl⟩))

/-- non-vacuity: a named directory is expanded, and `~name` without a slash is left alone -/
example : absP [("proj".toList, "/srv/proj".toList)] "/home/u".toList "/w".toList [] "~proj/a".toList = .ok "/srv/proj/a".toList := by
  repeat rw [String.toList_ofList]
  decide
example : expandHome [("proj".toList, "/srv/proj".toList)] "/home/u".toList "~proj".toList = .ok "~proj".toList := by decide

/-- a site that appears, disappears, or whose expression or guards change breaks this theorem -/
theorem C18_sites_covered : Gen.indexSites.map (·.2) = expectedSites.map (·.2) := rfl

end Carapace.Props.C18

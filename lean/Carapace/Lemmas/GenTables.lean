/-
  Every fact the proofs read off the generated replacer tables (`Gen/Replacers.lean`, regenerated from /repo on
  every run) is decided here, once.  A `_shape` and a `_strips` fact together are what
  `Replacer.not_mem_applyChars_sanitizer` takes; its result is addressed by the character: `.. '\t' (by simp)`.
-/
import Carapace.Gen.Replacers
import Carapace.Lemmas.Replacer

namespace Carapace.Gen
open Carapace.Replacer

theorem bash_sanitizer_shape : isSanitizer bash_sanitizer = true := by decide
theorem bash_sanitizer_strips : ∀ c ∈ ['\n', '\r', '\t'], lookup bash_sanitizer c = some [] := by decide

theorem cmd_clink_sanitizer_shape : isSanitizer cmd_clink_sanitizer = true := by decide
theorem cmd_clink_sanitizer_strips : ∀ c ∈ ['\n', '\r', '\t'], lookup cmd_clink_sanitizer c = some [] := by decide

theorem elvish_sanitizer_shape : isSanitizer elvish_sanitizer = true := by decide
theorem elvish_sanitizer_strips : ∀ c ∈ ['\n', '\r', '\t'], lookup elvish_sanitizer c = some [] := by decide

theorem fish_sanitizer_shape : isSanitizer fish_sanitizer = true := by decide
theorem fish_sanitizer_strips : ∀ c ∈ ['\n', '\r', '\t'], lookup fish_sanitizer c = some [] := by decide

theorem ion_sanitizer_shape : isSanitizer ion_sanitizer = true := by decide
theorem ion_sanitizer_strips : ∀ c ∈ ['\n', '\r'], lookup ion_sanitizer c = some [] := by decide

theorem nushell_sanitizer_shape : isSanitizer nushell_sanitizer = true := by decide
theorem nushell_sanitizer_strips : ∀ c ∈ ['\n', '\r', '\t'], lookup nushell_sanitizer c = some [] := by decide

theorem powershell_sanitizer_shape : isSanitizer powershell_sanitizer = true := by decide

theorem tcsh_sanitizer_shape : isSanitizer tcsh_sanitizer = true := by decide

theorem zsh_sanitizer_shape : isSanitizer zsh_sanitizer = true := by decide
theorem zsh_sanitizer_strips : ∀ c ∈ ['\n', '\r', '\t'], lookup zsh_sanitizer c = some [] := by decide

theorem bash_escapingReplacer_tilde : escChar bash_escapingReplacer '~' = ['~'] := by decide

theorem bash_escapingReplacer_no_nl : ∀ p ∈ bash_escapingReplacer, '\n' ∉ p.2 := by decide
theorem bash_escapingQuotedReplacer_no_nl : ∀ p ∈ bash_escapingQuotedReplacer, '\n' ∉ p.2 := by decide

theorem zsh_quotingEscapingReplacer_eq : zsh_quotingEscapingReplacer = bash_escapingQuotedReplacer := rfl

end Carapace.Gen

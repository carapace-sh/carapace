/-
  The agreement of the general models with the POSIX ones on flag sets without the fork's features: each general
  function reads, of an embedded flag, only what the POSIX flag has, and finds `=` and `Nargs` 0 for the rest.
-/
import Carapace.Spec.PflagG
import Carapace.Lemmas.Pflag

namespace Carapace.Props.C01Fork
open Carapace.Model Carapace.Spec.Pflag Carapace.Spec.PflagG

/-- a POSIX flag seen as a fork flag with the default delimiter and one word -/
def embed (f : FlagDef) : FlagDefG := { f with }

def embedFound (fd : Found) : FoundG := ⟨embed fd.flag, fd.prefix_, fd.args⟩

theorem consumesG_posix (fd : Found) (w : Str) : consumesG (embedFound fd) w = consumes fd := by
  simp [consumesG, consumes, embedFound, embed]

theorem lookupShortG_embed (fs : FlagSet) (c : Char) :
    lookupShortG (fs.map embed) c = (lookupShort fs c).map embed := List.find?_map ..

theorem lookupPosixShortG_posix (fs : FlagSet) (pre s : Str) :
    lookupPosixShortG (fs.map embed) pre s = (lookupPosixShort fs pre s).map embedFound := by
  fun_induction lookupPosixShort fs pre s <;>
    simp [lookupPosixShortG, lookupShortG_embed, embedFound, embed, *]

theorem lookupPosixLongG_posix (fs : FlagSet) (body : Str) :
    lookupPosixLongG (fs.map embed) body = (lookupPosixLong fs body).map embedFound := by
  simp only [lookupPosixLongG, lookupPosixLong, lookupLong, List.find?_map, Function.comp_def, embed, Option.map_map]
  rcases Str.cutChar '=' body with ⟨n, _ | v⟩ <;> simp [Function.comp_def, embedFound, embed, BEq.comm (a := n)]

theorem isPosixG_embed (fs : FlagSet) : isPosixG (fs.map embed) = true := by
  simp [isPosixG, embed]

theorem lookupArgG_posix (fs : FlagSet) (arg : Str) :
    lookupArgG (fs.map embed) arg = (lookupArg fs arg).map embedFound := by
  unfold lookupArgG lookupArg
  split <;> simp [isPosixG_embed, lookupPosixLongG_posix, lookupPosixShortG_posix, *]

def embedP (f : PFlag) : PFlagG := { f with }

theorem findLongG_embed (fs : PFlags) (body : Str) :
    findLongG (fs.map embedP) body = (findLong fs (Str.cutChar '=' body).1).map embedP := by
  unfold findLongG findLong
  simp [Function.comp_def, embedP, BEq.comm (a := (Str.cutChar '=' body).1)]

theorem findShortG_embed (fs : PFlags) (c : Char) :
    findShortG (fs.map embedP) c = (findShort fs c).map embedP := List.find?_map ..

theorem nargsValue_zero (rest : List Str) : nargsValue 0 rest = rest.headD [] := by simp [nargsValue]
theorem takeNargs_zero (rest : List Str) : takeNargs 0 rest = 1 := by simp [takeNargs]

theorem parseLongG_posix (fs : PFlags) (body : Str) (rest : List Str) :
    parseLongG (fs.map embedP) false body rest = (parseLong fs body rest.head?).map (Prod.map some Bool.toNat) := by
  unfold parseLong
  -- the literal in `body == "help".toList` is left alone, so that the hypothesis about it applies
  (repeat' split) <;>
    simp [parseLongG, Except.map, findLongG_embed, valueOkG, embedP, nargsValue_zero, takeNargs_zero,
      List.headD_eq_head?_getD, ← List.head?_eq_none_iff, -String.reduceToList, *]

/-- the condition `lookupShort fs '=' = none` of `C01_short_agrees`, per flag -/
def NoEqShort (fs : PFlags) : Prop := ∀ f ∈ fs, f.short ≠ some '='

/-- `-c=v`: the general parser cuts the whole word `c=v` at the delimiter `=`, and `c` is not it -/
theorem cut_short_eq {fs : PFlags} (h : NoEqShort fs) {c : Char} {f : PFlag} (hf : findShort fs c = some f)
    {r v : Str} (he : eqValue r = some v) : (Str.cutChar '=' (c :: r)).2 = some v := by
  obtain rfl := eqValue_some he
  obtain ⟨hmem, hs⟩ := findShort_some hf
  have hc : c ≠ '=' := fun e => h f hmem (e ▸ hs)
  simp [Str.cutChar, hc]

theorem parseShortG_posix (fs : PFlags) (h : NoEqShort fs) (cs : Str) (rest : List Str) :
    parseShortG (fs.map embedP) false cs rest = (parseShort fs cs rest.head?).map (Prod.map id Bool.toNat) := by
  generalize hn : rest.head? = next
  fun_induction parseShort fs cs next <;>
    simp [parseShortG, Except.map, findShortG_embed, valueOkG, embedP, nargsValue_zero, takeNargs_zero, cut_short_eq h,
      List.headD_eq_head?_getD, ← List.head?_eq_none_iff, *]

theorem isPosixP_embed (fs : PFlags) : isPosixP (fs.map embedP) = true := by
  simp [isPosixP, embedP]

theorem parseArgsG_posix (fs : PFlags) (h : NoEqShort fs) (inter : Bool) (l : List Str) (b : Bool) (p : Parsed) :
    parseArgsG (fs.map embedP) false inter l b.toNat p = parseArgs fs inter l b p := by
  fun_induction parseArgs fs inter l b p <;>
    simp_all [parseArgsG, Except.map, parseLongG_posix, parseShortG_posix fs h, isPosixP_embed]

/-- what is proved about `Pflag.parse` holds of `PflagG.parseG` on flag sets without fork features -/
theorem parseG_posix (fs : PFlags) (h : NoEqShort fs) (inter : Bool) (args : List Str) :
    parseG (fs.map embedP) inter args = parse fs inter args :=
  parseArgsG_posix fs h inter args false {}

end Carapace.Props.C01Fork

/-
  C15 — a proper prefix of an export document does not decode: the hypothesis `hprefix` of `C15_action_cache`,
  proved for the decoder model `parseExport` and every document `marshalExport` writes.  `parseExport` reads the
  document in the sense of `Reads`: uncut that is the round trip of C13, cut anywhere the rejection needed here.
-/
import Carapace.Props.C13
import Carapace.Props.C15

namespace Carapace.Props.C15
open Carapace.Model Carapace.Props.C13

theorem expect_trunc (lit r : Str) (k : Nat) :
    expect lit ((lit ++ r).take k) = if k < lit.length then none else some (r.take (k - lit.length)) :=
  expect_reads lit r k

theorem readLit_trunc (a : Str) : ∀ (m : JMode) (o acc : List Out) (k : Nat),
    m ≠ .done → jsonReader.run m a = some (.done, o) → k < a.length → readLit m (a.take k) acc = none := by
  intro m o acc k _ h hk
  exact (readLit_reads a m o acc h).cut hk

theorem parseString_trunc (s r : Str) (k : Nat) :
    parseString ((jsonEncodeString s ++ r).take k) =
      if k < (jsonEncodeString s).length then none else some (s, r.take (k - (jsonEncodeString s).length)) :=
  parseString_reads s r k

/-- a codec whose decoder rejects every truncation of an encoded element and otherwise hands on what follows:
    `∀ x, Reads elem (enc x) (some (x, ·))`, written out -/
def Seq {α : Type} (elem : Str → Option (α × Str)) (enc : α → Str) : Prop :=
  ∀ x r k, elem ((enc x ++ r).take k) = if k < (enc x).length then none else some (x, r.take (k - (enc x).length))

theorem parseElems_trunc {α : Type} (elem : Str → Option (α × Str)) (enc : α → Str) (h : Seq elem enc) :
    ∀ (xs : List α) (x : α) (n k : Nat) (r : Str), k < (bodyE enc x xs).length →
      parseElems elem n ((bodyE enc x xs ++ r).take k) = none := by
  intro xs
  induction xs with
  | nil =>
    intro x n k r hk
    cases n with
    | zero => rfl
    | succ n =>
      simp only [bodyE_nil, List.append_assoc, List.length_append, List.length_singleton] at hk ⊢
      rw [parseElems, h x]
      by_cases hlt : k < (enc x).length
      · rw [if_pos hlt]
      · -- the element is there, the closing bracket is not
        rw [if_neg hlt, show k - (enc x).length = 0 by omega]; rfl
  | cons y ys ih =>
    intro x n k r hk
    cases n with
    | zero => rfl
    | succ n =>
      simp only [bodyE_cons, List.append_assoc, List.cons_append, List.length_append, List.length_cons] at hk ⊢
      rw [parseElems, h x]
      by_cases hlt : k < (enc x).length
      · rw [if_pos hlt]
      · rw [if_neg hlt]
        cases hj : k - (enc x).length with
        | zero => rfl
        | succ j => simp only [List.take_succ_cons]; rw [ih y n j r (by omega)]

theorem parseArray_reads {α : Type} (elem : Str → Option (α × Str)) (enc : α → Str) (h : Seq elem enc)
    (hnil : elem [] = none) (hne : ∀ x, ∃ c r, enc x = c :: r ∧ c ≠ ']') (xs : List α) :
    Reads (parseArray elem) (jsonArray (xs.map enc)) (fun r => some (xs, r)) := by
  refine Reads.of_full_cut (parseArray_encode elem enc (fun x => Reads.full (h x)) hne xs) (fun k hk => ?_)
  cases xs with
  | nil =>
    obtain rfl | rfl : k = 0 ∨ k = 1 := by simp [jsonArray, Str.join] at hk; omega
    · rfl
    · simp [jsonArray, Str.join, parseArray, parseElems, hnil]
  | cons x xs =>
    rw [jsonArray_cons] at hk ⊢
    cases k with
    | zero => rfl
    | succ j =>
      obtain ⟨c, t, hc, hcne⟩ := hne x
      have hopen : ∀ r', (bodyE enc x xs).take j ≠ ']' :: r' := by
        cases j <;> simp [bodyE, hc, hcne]
      rw [List.take_succ_cons, parseArray_open elem _ hopen]
      have := parseElems_trunc elem enc h xs x ((List.take j (bodyE enc x xs)).length + 1) j [] (by simpa using hk)
      rwa [List.append_nil] at this

theorem parseArray_trunc {α : Type} (elem : Str → Option (α × Str)) (enc : α → Str) (h : Seq elem enc)
    (hnil : elem [] = none) (hne : ∀ x, ∃ c r, enc x = c :: r ∧ c ≠ ']') (xs : List α) (r : Str) (k : Nat) :
    parseArray elem ((jsonArray (xs.map enc) ++ r).take k) =
      if k < (jsonArray (xs.map enc)).length then none else some (xs, r.take (k - (jsonArray (xs.map enc)).length)) :=
  parseArray_reads elem enc h hnil hne xs r k

/-- the optional fields in turn, then the closing brace (the tail of `parseRawValue`; `otb` in lemma names) -/
def optsThenBrace : List Str → Str → Option (List Str × Str)
  | [], s => match s with
    | '}' :: r => some ([], r)
    | _ => none
  | n :: ns, s =>
    match parseOptField n s with
    | none => none
    | some (x, r) =>
      match optsThenBrace ns r with
      | none => none
      | some (xs, r') => some (x :: xs, r')

def optsText : List Str → List Str → Str
  | n :: ns, x :: xs => optText n x ++ optsText ns xs
  | _, _ => []

theorem optsText_nil (ns : List Str) : optsText ns [] = [] := by cases ns <;> rfl

theorem otb_cons (n : Str) (ns : List Str) (s : Str) : optsThenBrace (n :: ns) s =
    (match parseOptField n s with
     | none => none
     | some (x, r) =>
       match optsThenBrace ns r with
       | none => none
       | some (xs, r') => some (x :: xs, r')) := rfl

theorem otb_nil_brace (r : Str) : optsThenBrace [] ('}' :: r) = some ([], r) := rfl

theorem otb_nil_other (s : Str) (h : ∀ r, s ≠ '}' :: r) : optsThenBrace [] s = none := by
  unfold optsThenBrace
  split
  · exact absurd rfl (h _)
  · rfl

theorem otb_absent {n s : Str} (ns : List Str) (h : expect (optPre n) s = none) :
    optsThenBrace (n :: ns) s = (optsThenBrace ns s).bind fun (xs, r') => some ([] :: xs, r') := by
  rw [otb_cons, parseOptField, h]
  dsimp only
  cases optsThenBrace ns s <;> rfl

theorem absent_all (t : Str) (ht : ∀ r, t ≠ '}' :: r) : ∀ ns : List Str, (∀ n ∈ ns, expect (optPre n) t = none) →
    optsThenBrace ns t = none := by
  intro ns
  induction ns with
  | nil => exact fun _ => otb_nil_other t ht
  | cons n ns ih =>
    intro h
    rw [otb_absent ns (h n (List.mem_cons_self ..)), ih fun m hm => h m (List.mem_cons_of_mem _ hm)]
    rfl

/-- the string literal `"n'"` is read back as `n'` whatever follows it -/
theorem optPre_sep {n n' : Str} (hne : n ≠ n') (s : Str) : expect (optPre n) (optPre n' ++ s) = none := by
  refine expect_eq_none.mpr fun ⟨t, e⟩ => ?_
  simp only [optPre, List.append_assoc, List.cons_append, List.nil_append, List.cons.injEq, true_and] at e
  have := congrArg parseString e
  rw [parseString_encode, parseString_encode] at this
  exact hne (Prod.mk.inj (Option.some.inj this)).1

/-- a text that begins with (a cut of) the prefix of a name not in `ns` has none of the fields of `ns` and no brace -/
theorem otb_foreign {n : Str} {ns : List Str} (hn : n ∉ ns) (s : Str) (j : Nat) :
    optsThenBrace ns ((optPre n ++ s).take j) = none := by
  refine absent_all _ (fun r' => ?_) ns fun m hm =>
    expect_take_none j (optPre_sep (ne_of_mem_of_not_mem hm hn) s)
  cases j <;> simp [optPre]

theorem expect_none_of_otb {n s : Str} {ns : List Str} {res : List Str × Str} (hn : n ∉ ns)
    (h : optsThenBrace ns s = some res) : expect (optPre n) s = none := by
  refine expect_eq_none.mpr fun ⟨s', e⟩ => ?_
  have := otb_foreign hn s' s.length
  rw [e, List.take_length, h] at this
  cases this

/-- A cut inside the *name* of a field is not rejected on the spot - the decoder takes the field for absent - but
    then every later field is absent as well and the closing brace is missing. -/
theorem otb_name {n : Str} {ns : List Str} (hn : n ∉ ns) : Reads (optsThenBrace (n :: ns)) (optPre n)
    (fun s => (parseString s).bind fun (x, r) => (optsThenBrace ns r).bind fun (xs, r') => some (x :: xs, r')) := by
  intro r k
  rw [otb_cons, parseOptField, expect_reads]
  by_cases hk : k < (optPre n).length
  · simp only [if_pos hk, otb_foreign hn]
  · simp only [if_neg hk]
    cases parseString (r.take (k - (optPre n).length)) with
    | none => rfl
    | some p =>
      obtain ⟨x, r'⟩ := p
      dsimp only [Option.bind_some]
      cases optsThenBrace ns r' <;> rfl

theorem optsThenBrace_reads : ∀ {ns : List Str}, ns.Nodup → ∀ xs : List Str, xs.length = ns.length →
    Reads (optsThenBrace ns) (optsText ns xs ++ ['}']) (fun r => some (xs, r)) := by
  intro ns
  induction ns with
  | nil =>
    intro _ xs hl r k
    obtain rfl := List.eq_nil_of_length_eq_zero hl
    cases k <;> rfl
  | cons n ns ih =>
    intro hnd xs hl
    obtain ⟨hn, hnd⟩ := List.nodup_cons.mp hnd
    cases xs with
    | nil => simp at hl
    | cons x xs =>
      have ih := ih hnd xs (by simpa using hl)
      cases x with
      | nil =>
        intro r k
        rw [optsText, show optText n [] = [] from rfl, List.nil_append,
          otb_absent ns (expect_take_none k (expect_none_of_otb hn (ih.full r)))]
        exact ih.cont r k
      | cons c x =>
        rw [optsText, show optText n (c :: x) = optPre n ++ jsonEncodeString (c :: x) from rfl, List.append_assoc]
        exact ((otb_name hn).trans (parseString_reads (c :: x)).cont).trans ih.cont

/-- `optsText` ignores values beyond the names and takes missing ones for empty -/
theorem optsText_fit : ∀ ns xs : List Str, ∃ ys : List Str, ys.length = ns.length ∧ optsText ns ys = optsText ns xs
  | [], xs => ⟨[], rfl, by cases xs <;> rfl⟩
  | n :: ns, [] =>
    let ⟨ys, hl, h⟩ := optsText_fit ns []
    ⟨[] :: ys, by simp [hl], by rw [optsText, h, optsText_nil ns]; rfl⟩
  | n :: ns, x :: xs =>
    let ⟨ys, hl, h⟩ := optsText_fit ns xs
    ⟨x :: ys, by simp [hl], by rw [optsText, optsText, h]⟩

-- the two separation hypotheses hold for any distinct names (`optPre_sep`) and are not used
theorem opts_trunc : ∀ (ns : List Str), ns.Nodup →
    (∀ n ∈ ns, ∀ n' ∈ ns, n ≠ n' → ∀ s, expect (optPre n) (optPre n' ++ s) = none) →
    (∀ n ∈ ns, ∀ n' ∈ ns, n ≠ n' → ∀ j, expect (optPre n') ((optPre n).take j) = none) →
    ∀ (xs : List Str) (r : Str) (j : Nat), j < (optsText ns xs).length + 1 →
      optsThenBrace ns ((optsText ns xs ++ '}' :: r).take j) = none := by
  intro ns hnd _ _ xs r j hj
  obtain ⟨ys, hl, he⟩ := optsText_fit ns xs
  have := optsThenBrace_reads hnd ys hl r j
  rwa [he, if_pos (by simpa using hj), List.append_assoc] at this

def optNames : List Str := ["description".toList, "style".toList, "tag".toList, "uid".toList]

theorem optNames_nodup : optNames.Nodup := by
  unfold optNames
  repeat rw [String.toList_ofList]
  decide

theorem optNames_sep1 : ∀ n ∈ optNames, ∀ n' ∈ optNames, n ≠ n' → ∀ s, expect (optPre n) (optPre n' ++ s) = none :=
  fun _ _ _ _ hne s => optPre_sep hne s

theorem parseRawValue_eq (s : Str) : parseRawValue s =
    (expect (objPre "value".toList) s).bind fun r =>
    (parseString r).bind fun (value, r) =>
    (expect (optPre "display".toList) r).bind fun r =>
    (parseString r).bind fun (display, r) =>
    (optsThenBrace optNames r).bind fun (xs, r) =>
    match xs with
    | [a, b, c, d] => some ({ value := value, display := display, description := a, style := b, tag := c, uid := d }, r)
    | _ => none := by
  -- `split` opens the outermost `match` of the left side; its equation `h` turns the head of the right side into
  -- `none.bind _` / `(some _).bind _`, which `dsimp only` reduces.  (`simp only [*]` after splitting everything also
  -- works, but rewrites the whole continuation at every level.)  The last distinction is over a text, not over a result
  simp only [parseRawValue, optNames, optsThenBrace]
  repeat (split <;> (rename_i h; rw [h]; dsimp only [Option.bind_none, Option.bind_some]))
  split <;> simp only [*, Option.bind_none, Option.bind_some]

theorem marshalRawValue_opts (v : RawValue) :
    marshalRawValue v = objPre "value".toList ++ (jsonEncodeString v.value ++ (optPre "display".toList ++ (jsonEncodeString v.display
      ++ (optsText optNames [v.description, v.style, v.tag, v.uid] ++ ['}'])))) := by
  simp only [marshalRawValue_eq, optsText, optNames, List.append_assoc, List.append_nil]

theorem parseRawValue_reads (v : RawValue) : Reads parseRawValue (marshalRawValue v) (fun r => some (v, r)) := by
  rw [marshalRawValue_opts, funext parseRawValue_eq]
  exact .lit _ <| .bind (parseString_reads _) <| .lit _ <| .bind (parseString_reads _) <|
    (optsThenBrace_reads optNames_nodup [v.description, v.style, v.tag, v.uid] (by simp [optNames])).cont

theorem seq_parseRawValue : Seq parseRawValue marshalRawValue := parseRawValue_reads

theorem parseValues_array_reads (vs : List RawValue) :
    Reads parseValues (jsonArray (vs.map marshalRawValue)) (fun r => some (some vs, r)) := by
  intro r k
  have hnull : expect "null".toList ((jsonArray (vs.map marshalRawValue) ++ r).take k) = none :=
    expect_take_none k (by simp [expect, jsonArray, Str.hasPrefix])
  rw [parseValues, hnull]
  simp only [parseArray_trunc parseRawValue marshalRawValue seq_parseRawValue (by decide) marshalRawValue_head]
  by_cases hk : k < (jsonArray (vs.map marshalRawValue)).length <;> simp [hk]

theorem parseValues_null_reads : Reads parseValues "null".toList (fun r => some (none, r)) := by
  refine Reads.of_full_cut (fun r => ?_) (fun k hk => ?_)
  · simp only [parseValues, expect_append]
  · -- a cut `null` is neither `null` nor an array
    match k, (hk : k < 4) with
    | 0, _ | 1, _ | 2, _ | 3, _ => rfl

/-- the values field of the document, `null` or an array -/
def valuesText (vs : Option (List RawValue)) : Str :=
  match vs with
  | none => "null".toList
  | some vs => jsonArray ((sortBy (fun a b => Str.lt a.value b.value) vs).map marshalRawValue)

theorem parseValues_reads (vs : Option (List RawValue)) :
    Reads parseValues (valuesText vs) (fun r => some (wireValues vs, r)) := by
  cases vs with
  | none => exact parseValues_null_reads
  | some vs => exact parseValues_array_reads _

theorem valuesText_trunc (vs : Option (List RawValue)) (r : Str) (k : Nat) :
    parseValues ((valuesText vs ++ r).take k) =
      if k < (valuesText vs).length then none else some (wireValues vs, r.take (k - (valuesText vs).length)) :=
  parseValues_reads vs r k

def closing {γ : Type} (x : γ) : Str → Option γ
  | ['}'] => some x
  | _ => none

theorem parseExport_eq (s : Str) : parseExport s =
    (expect (objPre "version".toList) s).bind fun r =>
    (parseString r).bind fun (version, r) =>
    (expect (optPre "messages".toList) r).bind fun r =>
    (parseArray parseString r).bind fun (messages, r) =>
    (expect (optPre "nospace".toList) r).bind fun r =>
    (parseString r).bind fun (nospace, r) =>
    (expect (optPre "usage".toList) r).bind fun r =>
    (parseString r).bind fun (usage, r) =>
    (expect (optPre "values".toList) r).bind fun r =>
    (parseValues r).bind fun (values, r) =>
    closing { version, messages, nospace, usage, values } r := by
  unfold parseExport
  repeat (split <;> (rename_i h; rw [h]; dsimp only [Option.bind_none, Option.bind_some]))
  rfl

theorem closing_reads {γ : Type} (x : γ) : Reads (closing x) ['}'] (fun r => if r = [] then some x else none) := by
  intro r k
  cases k with
  | zero => rfl
  | succ k => cases h : r.take k <;> simp [closing, h]

theorem marshalExport_eq (version : Str) (m : Meta) (vs : Option (List RawValue)) :
    marshalExport version m vs =
      objPre "version".toList ++ (jsonEncodeString version ++ (optPre "messages".toList ++
      (jsonArray (m.messages.map jsonEncodeString) ++ (optPre "nospace".toList ++ (jsonEncodeString m.nospace ++
      (optPre "usage".toList ++ (jsonEncodeString m.usage ++ (optPre "values".toList ++ (valuesText vs ++ ['}']))))))))) := by
  simp only [marshalExport, jsonObject, join_cons, flatMap_field, List.flatMap_nil, List.append_nil]
  simp only [jsonField, objPre, List.append_assoc, List.cons_append, List.nil_append]
  cases vs <;> rfl

theorem parseExport_reads (version : Str) (m : Meta) (vs : Option (List RawValue)) :
    Reads parseExport (marshalExport version m vs) (fun r => if r = [] then
      some { version := version, messages := m.messages, nospace := m.nospace, usage := m.usage, values := wireValues vs }
      else none) := by
  rw [marshalExport_eq, funext parseExport_eq]
  exact .lit _ <| .bind (parseString_reads version) <| .lit _ <|
    .bind (parseArray_reads parseString jsonEncodeString parseString_reads (by decide) (fun _ => ⟨'"', _, rfl, by decide⟩)
      m.messages) <|
    .lit _ <| .bind (parseString_reads m.nospace) <| .lit _ <| .bind (parseString_reads m.usage) <| .lit _ <|
    .bind (parseValues_reads vs) (closing_reads _)

/-- **a proper prefix of an export document does not decode.** -/
theorem C15_prefix_rejected (version : Str) (m : Meta) (vs : Option (List RawValue)) (k : Nat)
    (hk : k < (marshalExport version m vs).length) : parseExport ((marshalExport version m vs).take k) = none :=
  (parseExport_reads version m vs).cut hk

/-- **C15 (Action cache), without hypotheses on the decoder**: for the decoder model and every document the
    encoder writes. -/
theorem C15_action_cache_export (version : Str) (m : Meta) (vs : Option (List RawValue)) (old : FileState) (stop : Option Nat) :
    readAction parseExport (inPlaceWrite old (marshalExport version m vs) stop) = none ∨
    readAction parseExport (inPlaceWrite old (marshalExport version m vs) stop) = readAction parseExport old ∨
    readAction parseExport (inPlaceWrite old (marshalExport version m vs) stop) =
      some { version := version, messages := m.messages, nospace := m.nospace, usage := m.usage, values := wireValues vs } :=
  have h := parseExport_reads version m vs
  C15_action_cache parseExport _ _ (by simpa using h.full []) (fun _ hk => h.cut hk) old stop

/-- non-vacuity: the shortest document has 67 characters -/
example : parseExport ((marshalExport "v".toList {} none).take 40) = none :=
  C15_prefix_rejected _ _ _ 40 (by
    have : (marshalExport "v".toList {} none).length = 67 := by
      rw [marshalExport_eq]
      repeat rw [String.toList_ofList]
      decide
    omega)

end Carapace.Props.C15

/-
  `strings.NewReplacer`: scan left to right; at each position apply the first pair (in
  argument order) whose `old` is a prefix of the remaining input, else copy one character.
  (Go's documented rule; empty `old` does not occur in the extracted tables.)
-/
import Carapace.Basic.Str

namespace Carapace

abbrev Replacer := List (Str × Str)

namespace Replacer

def firstMatch : Replacer → Str → Option (Str × Str)
  | [], _ => none
  | (old, new) :: r, s => if Str.hasPrefix s old && !old.isEmpty then some (old, new) else firstMatch r s

/-- generic application (fuel bounds the number of steps; `s.length + 1` always suffices) -/
def applyFuel (t : Replacer) : Nat → Str → Str
  | 0, s => s
  | _ + 1, [] => []
  | n + 1, c :: s =>
    match firstMatch t (c :: s) with
    | some (old, new) => new ++ applyFuel t n ((c :: s).drop old.length)
    | none => c :: applyFuel t n s

def apply (t : Replacer) (s : Str) : Str := applyFuel t (s.length + 1) s

/-- all `old` strings are single characters -/
def singleChar (t : Replacer) : Bool := t.all (fun p => p.1.length == 1)

/-- lookup in a table whose keys are single characters -/
def lookup : Replacer → Char → Option Str
  | [], _ => none
  | (old, new) :: r, c => if old == [c] then some new else lookup r c

/-- character-wise application; equals `apply` when `singleChar` (see `apply_eq_applyChars`) -/
def escChar (t : Replacer) (c : Char) : Str := (lookup t c).getD [c]
def applyChars (t : Replacer) (s : Str) : Str := s.flatMap (escChar t)

/-- keys of the table are ASCII -/
def keysAscii (t : Replacer) : Bool := t.all (fun p => p.1.all (fun c => c.toNat < 128))

/-- the set of characters a sanitizer (a replacer whose `new` strings are empty) deletes -/
def deleted (t : Replacer) (c : Char) : Bool := lookup t c == some []

end Replacer
end Carapace

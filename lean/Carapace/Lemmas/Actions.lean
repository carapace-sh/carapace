/- lemmas about `splitAfter`, `tokenize`, `uniqueByValue` (Model/Actions.lean) -/
import Carapace.Model.Actions
import Carapace.Lemmas.Str

namespace Carapace.Model

/-- `ts` cuts `s` into pieces, at least one: what `splitAfter` and `tokenize` return for `s` -/
structure Pieces (ts : List Str) (s : Str) : Prop where
  flatten : ts.flatten = s
  ne_nil : ts ≠ []

theorem splitAfterNE_pieces (sep : Str) (n : Nat) (s cur : Str) :
    Pieces (splitAfterNE sep n s cur) (cur.reverse ++ s) := by
  fun_induction splitAfterNE sep n s cur with
  | case1 | case2 => exact ⟨by simp, by simp⟩
  | case3 n c s cur h ih =>
    have := List.prefix_iff_eq_append.mp (Str.hasPrefix_iff_prefix.mp h)
    exact ⟨by simp [ih.flatten, this], by simp⟩
  | case4 n c s cur h ih => exact ⟨by simpa using ih.flatten, ih.ne_nil⟩

theorem splitAfter_flatten (s sep : Str) : (splitAfter s sep).flatten = s := by
  unfold splitAfter
  split
  · exact List.flatMap_singleton' s
  · simpa using (splitAfterNE_pieces sep _ s []).flatten

theorem splitAfter_pieces (s sep : Str) (h : sep ≠ []) : Pieces (splitAfter s sep) s := by
  rw [splitAfter, if_neg (by simpa using h)]
  simpa using splitAfterNE_pieces sep _ s []

theorem appendLast_concat (r : List Str) (l d : Str) : appendLast (r ++ [l]) d = r ++ [l ++ d] := by
  simp [appendLast]

theorem Pieces.attach {xs : List Str} {s : Str} (h : Pieces xs s) (d : Str) : Pieces (appendLast xs d) (s ++ d) := by
  obtain ⟨rfl, hne⟩ := h
  obtain ⟨r, l, rfl⟩ := (List.eq_nil_or_concat xs).resolve_left hne
  exact ⟨by simp [appendLast_concat], by simp [appendLast_concat]⟩

/-- one piece `w` of the split at `d`: the tokens of the trimmed piece, with `d` put back on the last one -/
theorem Pieces.reattach {tokens : List Str} {w d : Str} (h : Pieces tokens (Str.trimSuffix w d)) :
    Pieces (if !tokens.isEmpty && Str.hasSuffix w d then appendLast tokens d else tokens) w := by
  cases hs : Str.hasSuffix w d with
  | true =>
    rw [if_pos (by simpa using h.ne_nil)]
    exact Str.trimSuffix_append w d hs ▸ h.attach d
  | false =>
    rw [if_neg (by simp)]
    exact Str.trimSuffix_of_not w d hs ▸ h

theorem Pieces.flatMap {f : Str → List Str} {ws : List Str} {s : Str} (h : Pieces ws s)
    (hf : ∀ w ∈ ws, Pieces (f w) w) : Pieces (ws.flatMap f) s := by
  obtain ⟨w, hw⟩ := List.exists_mem_of_ne_nil _ h.ne_nil
  refine ⟨?_, fun h0 => (hf w hw).ne_nil (List.flatMap_eq_nil_iff.mp h0 w hw)⟩
  rw [← h.flatten, List.flatMap_def, List.flatten_flatten, List.map_map,
    List.map_congr_left (f := List.flatten ∘ f) (g := id) fun w hw => (hf w hw).flatten, List.map_id]

theorem tokenize_pieces : ∀ (ds : List Str), (∀ d ∈ ds, d ≠ []) → ∀ s : Str, Pieces (tokenize s ds) s
  | [], _, s => ⟨by simp [tokenize], by simp [tokenize]⟩
  | d :: ds, hds, s =>
    (splitAfter_pieces s d (hds d List.mem_cons_self)).flatMap fun w _ =>
      (tokenize_pieces ds (fun x hx => hds x (List.mem_cons_of_mem _ hx)) _).reattach

theorem uniqueByValue_cons (v : RawValue) (r : List RawValue) :
    uniqueByValue (v :: r) =
      if r.any (fun x => x.value == v.value) then uniqueByValue r else v :: uniqueByValue r := rfl

theorem uniqueByValue_sublist (xs : List RawValue) : (uniqueByValue xs).Sublist xs := by
  induction xs with
  | nil => exact .slnil
  | cons v r ih =>
    rw [uniqueByValue_cons]
    split
    · exact ih.cons v
    · exact ih.cons_cons v

theorem uniqueByValue_sub (xs : List RawValue) : ∀ y ∈ uniqueByValue xs, y ∈ xs :=
  (uniqueByValue_sublist xs).subset

theorem mem_values_uniqueByValue (xs : List RawValue) (w : Str) :
    w ∈ (uniqueByValue xs).map (·.value) ↔ w ∈ xs.map (·.value) := by
  induction xs with
  | nil => rfl
  | cons v r ih =>
    rw [uniqueByValue_cons]
    split
    · next h =>
      -- `v` gives way to a later record of its value
      rw [ih, List.map_cons, List.mem_cons, or_iff_right_of_imp]
      rintro rfl
      simpa using h
    · simp [ih]

theorem uniqueByValue_cover (xs : List RawValue) : ∀ x ∈ xs, ∃ y ∈ uniqueByValue xs, y.value = x.value :=
  fun x hx => List.mem_map.mp ((mem_values_uniqueByValue xs x.value).mpr (List.mem_map_of_mem hx))

theorem uniqueByValue_nodup (xs : List RawValue) : ((uniqueByValue xs).map (·.value)).Nodup := by
  induction xs with
  | nil => exact List.nodup_nil
  | cons v r ih =>
    rw [uniqueByValue_cons]
    split
    · exact ih
    · next h =>
      rw [List.map_cons, List.nodup_cons, mem_values_uniqueByValue]
      exact ⟨fun hm => h (by simpa using hm), ih⟩

end Carapace.Model

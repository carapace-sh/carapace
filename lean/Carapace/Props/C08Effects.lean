/-
  C08 — where the library changes the process: calls of os.Setenv / Unsetenv / Clearenv / Chdir and direct assignments
  to package-level variables, regenerated from /repo on every run (`Gen/GlobalEffects.lean`) and pinned to the reviewed
  list (`C08EffectSites.lean`).  The nine reviewed statements run at package initialisation (`init`: storage, style
  configuration, logger, match mode, zsh named directories) or once on the entry path (`Patch` of bash and cmd-clink),
  none while an Action is invoked.  Such a statement anywhere else breaks `C08_global_effects_covered`; the check then
  searches with the histories of op `history`.
  Not seen: writes through a pointer or a method receiver into state reachable from a package-level variable (the
  storage entries, reflection in config.Load) - those are what the histories are for.
-/
import Carapace.Gen.GlobalEffects
import Carapace.Basic.Str
import Carapace.Props.C08EffectSites

namespace Carapace.Props.C08

theorem C08_global_effects_covered : Gen.globalEffects = expectedGlobalEffects := rfl

/-- brings the string literals under `List.map String.toList`, where `String.toList_ofList` can rewrite them to their
    characters before `decide` evaluates -/
theorem all_not_any_hasPrefix_toList (es : List (String × Nat)) (ps : List String) :
    es.all (fun e => !(ps.any fun p => Carapace.Str.hasPrefix e.1.toList p.toList)) =
      (es.map (·.1.toList)).all (fun s => !((ps.map String.toList).any fun q => Carapace.Str.hasPrefix s q)) := by
  simp [List.all_map, List.any_map, Function.comp_def]

/-- none of the reviewed statements lies in a file of the invocation path -/
theorem C08_no_effect_on_invocation_path :
    expectedGlobalEffects.all (fun e => !(["action.go ", "invokedAction.go ", "defaultActions.go ", "context.go ", "batch.go ",
      "internalActions.go ", "storage.go "].any (fun p => Carapace.Str.hasPrefix e.1.toList p.toList))) = true := by
  rw [all_not_any_hasPrefix_toList]
  simp only [expectedGlobalEffects, List.map_cons, List.map_nil]
  repeat rw [String.toList_ofList]
  decide

end Carapace.Props.C08

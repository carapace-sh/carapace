/-
  C04 — wire format integrity: one intact record per candidate.
  fish: decoding the output gives one record per candidate, each with its own value and description.  bash, zsh:
  the consumer's splitting inverts the framing for any texts free of the framing characters.  JSON formats: one
  record per candidate, no line break in insert / display.  bash-ble, cmd-clink: counterexamples only.
-/
import Carapace.Model.Shells
import Carapace.Spec.Decode
import Carapace.Lemmas.Str
import Carapace.Lemmas.GenTables

namespace Carapace.Props.C04
open Carapace.Model Carapace.Spec

theorem cmdclink_sanitizer_shape : Replacer.isSanitizer Gen.cmd_clink_sanitizer = true := Gen.cmd_clink_sanitizer_shape
theorem cmdclink_strips : Replacer.lookup Gen.cmd_clink_sanitizer '\n' = some [] ∧ Replacer.lookup Gen.cmd_clink_sanitizer '\t' = some []
    ∧ Replacer.lookup Gen.cmd_clink_sanitizer '\r' = some [] :=
  ⟨Gen.cmd_clink_sanitizer_strips _ (by simp), Gen.cmd_clink_sanitizer_strips _ (by simp),
    Gen.cmd_clink_sanitizer_strips _ (by simp)⟩
theorem ion_sanitizer_shape : Replacer.isSanitizer Gen.ion_sanitizer = true := Gen.ion_sanitizer_shape
theorem ion_strips : Replacer.lookup Gen.ion_sanitizer '\n' = some [] ∧ Replacer.lookup Gen.ion_sanitizer '\r' = some [] :=
  ⟨Gen.ion_sanitizer_strips _ (by simp), Gen.ion_sanitizer_strips _ (by simp)⟩

/-- `hne`: the single empty text joins to nothing at all -/
theorem lines_join (xs : List Str) (hnl : ∀ x ∈ xs, '\n' ∉ x) (hne : xs ≠ [[]]) :
    lines (Str.join nlS xs) = xs := by
  rw [nlS, Str.join_singleton, lines]
  split
  · rename_i he
    rcases Str.joinChar_eq_nil _ _ (List.isEmpty_iff.mp he) with h | h
    · exact h.symm
    · exact absurd h hne
  · rename_i he
    exact Str.splitOnChar_joinChar '\n' xs (fun h => he (by rw [h]; rfl)) hnl

def fishExpected (v : RawValue) : Rec :=
  { insert := san Gen.fish_sanitizer v.value, display := san Gen.fish_sanitizer v.value,
    description := san Gen.fish_sanitizer v.trimmed }

/-- **C04 (fish).** For *any* text in value and description the consumer's parsing recovers one
    record per candidate, each with its own (sanitised) value and trimmed description. -/
theorem C04_fish (vs : List RawValue) :
    decodeFish (fishFormat vs) = some { recs := vs.map fishExpected } := by
  have free : ∀ c ∈ ['\n', '\r', '\t'], ∀ s, c ∉ san Gen.fish_sanitizer s :=
    Replacer.not_mem_applyChars_sanitizer Gen.fish_sanitizer_shape Gen.fish_sanitizer_strips
  rw [decodeFish, fishFormat, lines_join, List.map_map]
  · -- a line is cut at its first tab, which stands behind the value: the sanitizer leaves none in it
    congr 2
    refine List.map_congr_left fun v _ => ?_
    simp only [Function.comp, List.append_assoc, List.singleton_append,
      Str.cutChar_append _ _ _ (free '\t' (by simp) _)]
    rfl
  · exact List.forall_mem_map.mpr fun v _ => by simp [free '\n']
  · -- no line is empty: each holds a tab
    cases vs <;> simp

theorem C04_fish_count (vs : List RawValue) :
    (decodeFish (fishFormat vs)).map (·.recs.length) = some vs.length := by
  simp [C04_fish]

/-- **C04 (bash framing).** `flag \x01 text \n text ...`: the consumer recovers the flag and the texts one by one -/
theorem C04_bash_framing (flag : Bool) (texts : List Str) (hnl : ∀ t ∈ texts, '\n' ∉ t) (hne : texts ≠ [[]]) :
    decodeBash (boolStr flag ++ [Char.ofNat 1] ++ Str.join nlS texts) =
      some { recs := texts.map (fun l => { insert := l, display := l }), globalNospace := some flag } := by
  have hflag : Char.ofNat 1 ∉ boolStr flag := by cases flag <;> simp [boolStr]
  unfold decodeBash
  rw [List.append_assoc, List.singleton_append, Str.cutChar_append _ _ _ hflag]
  simp only [lines_join texts hnl hne]
  cases flag <;> simp [boolStr]

/-- the sanitizer strips the line feed and the escape tables introduce none -/
theorem C04_bash_no_linebreak (env : Env) (v : Str) : '\n' ∉ bashInsert env v := by
  have hs : '\n' ∉ san Gen.bash_sanitizer v :=
    Replacer.not_mem_applyChars_sanitizer Gen.bash_sanitizer_shape Gen.bash_sanitizer_strips '\n' (by simp) v
  unfold bashInsert
  simp only
  split
  · exact Replacer.not_mem_applyChars hs Gen.bash_escapingReplacer_no_nl
  · split
    · simp [Replacer.not_mem_applyChars hs Gen.bash_escapingQuotedReplacer_no_nl]
    · exact hs

theorem C04_elvish_no_linebreak (m : Meta) (vs : List RawValue) :
    ∀ r ∈ elvishRecs m vs, '\n' ∉ r.insert ∧ '\n' ∉ r.display ∧ '\r' ∉ r.insert ∧ '\r' ∉ r.display := by
  intro r hr
  obtain ⟨v, _, rfl⟩ := List.mem_map.mp hr
  have free := Replacer.not_mem_applyChars_sanitizer Gen.elvish_sanitizer_shape Gen.elvish_sanitizer_strips
  have nl := free '\n' (by simp)
  have cr := free '\r' (by simp)
  exact ⟨nl _, nl _, cr _, cr _⟩

theorem C04_nushell_display_no_linebreak (m : Meta) (vs : List RawValue) :
    ∀ r ∈ nushellRecs m vs, '\n' ∉ r.display ∧ '\r' ∉ r.display := by
  intro r hr
  obtain ⟨v, _, rfl⟩ := List.mem_map.mp hr
  have free := Replacer.not_mem_applyChars_sanitizer Gen.nushell_sanitizer_shape Gen.nushell_sanitizer_strips
  exact ⟨free '\n' (by simp) _, free '\r' (by simp) _⟩

/-- one record per candidate for the JSON formats -/
theorem C04_json_counts (m : Meta) (vs : List RawValue) :
    (elvishRecs m vs).length = vs.length ∧ (nushellRecs m vs).length = vs.length ∧
    (xonshRecs m vs).length = vs.length ∧ (ionRecs m vs).length = vs.length ∧
    (powershellRecs m vs).length = (vs.filter (fun v => !v.value.isEmpty)).length := by
  simp [elvishRecs, nushellRecs, xonshRecs, ionRecs, powershellRecs]

/-- outer level: `zstyle \x01 message \x01 data \x01`, split by the snippet's `IFS=$'\001' read` -/
theorem C04_zsh_outer_framing (z m d : Str) (hz : Char.ofNat 1 ∉ z) (hm : Char.ofNat 1 ∉ m) (hd : Char.ofNat 1 ∉ d) :
    Str.splitOnChar (Char.ofNat 1) (z ++ [Char.ofNat 1] ++ m ++ [Char.ofNat 1] ++ d ++ [Char.ofNat 1]) = [z, m, d, []] := by
  simp only [List.append_assoc, List.cons_append, List.nil_append]
  rw [Str.splitOnChar_append _ _ _ hz, Str.splitOnChar_append _ _ _ hm, Str.splitOnChar_append _ _ _ hd]
  rfl

/-- middle level: one block `tag \x03 displays \x03 values` per tag -/
theorem C04_zsh_block_framing (tag ds vs : Str) (h1 : Char.ofNat 3 ∉ tag) (h2 : Char.ofNat 3 ∉ ds) (h3 : Char.ofNat 3 ∉ vs) :
    Str.splitOnChar (Char.ofNat 3) (Str.join [Char.ofNat 3] [tag, ds, vs]) = [tag, ds, vs] := by
  simp only [Str.join, List.append_assoc, List.singleton_append]
  rw [Str.splitOnChar_append _ _ _ h1, Str.splitOnChar_append _ _ _ h2, Str.splitOnChar_no _ _ h3]

theorem C04_zsh_lines (texts : List Str) (hne : texts ≠ []) (hnl : ∀ t ∈ texts, '\n' ∉ t) :
    Str.splitOnChar '\n' (Str.join nlS texts) = texts :=
  Str.splitOnChar_join '\n' texts hne hnl

/-- `zshData` joins lines built from sanitised texts by `zshValueText` / `zshDescribe`; that those add no line
    feed is not shown -/
theorem C04_zsh_values_no_linebreak (v : Str) : '\n' ∉ san Gen.zsh_sanitizer v :=
  Replacer.not_mem_applyChars_sanitizer Gen.zsh_sanitizer_shape Gen.zsh_sanitizer_strips '\n' (by simp) v

/-- the framing characters themselves are *not* removed (listed finding `zsh_framing_control_chars`):
    a message containing \x01 yields five outer fields instead of four -/
theorem C04_zsh_framing_counterexample :
    (Str.splitOnChar (Char.ofNat 1) ("z".toList ++ [Char.ofNat 1] ++
      san Gen.zsh_message_formatMessage_msg ['-', Char.ofNat 1] ++ [Char.ofNat 1] ++ "d".toList ++ [Char.ofNat 1])).length = 5 := by
  decide

/-- bash-ble sanitises nothing: a tab in the value shifts the fields (finding `bashble_unsanitised`) -/
theorem C04_bashble_counterexample :
    (decodeBashBle (bashBleFormat {} [{ value := "a\tb".toList, display := "ab".toList }])).map (·.recs.map (·.insert))
      = some ["a".toList] := by
  repeat rw [String.toList_ofList]
  decide

/-- cmd-clink's consumer drops empty fields: an empty description shifts the append character
    into the description slot (finding `cmdclink_empty_fields`) -/
theorem C04_cmdclink_counterexample :
    (decodeCmdClink (cmdClinkFormat {} [{ value := "a".toList, display := "a".toList }])).map (·.recs.map (·.description))
      = some [" ".toList] := by decide

end Carapace.Props.C04

/-
  C18 over the general traverse model: the two slice expressions of traverse.go whose bounds depend on the typed
  line.  No hypothesis on the line (sub-command names, `--`, fork features, non-POSIX flag sets), which the
  POSIX version `C18_toParse_nonempty` with its `NoChild` is not free of.
-/
import Carapace.Model.TraverseG
import Carapace.Lemmas.Pflag

namespace Carapace.Props.C18
open Carapace.Model

theorem classifyG_next_inArgs {t : TTreeG} {c : Nat} {cs : TCmdG} {fs : FlagSetG} {arg : Str} {st st' : LoopStateG}
    (h : classifyG t c cs fs arg st = .next st') : st'.inArgs = st.inArgs ++ [arg] := by
  unfold classifyG at h
  extract_lets noFlag at h
  have htail : noFlag = .next st' → st'.inArgs = st.inArgs ++ [arg] := by
    intro h
    unfold noFlag at h
    (repeat' split at h) <;> cases h <;> rfl
  split at h
  · split at h
    · cases h; rfl
    · exact htail h
  · exact htail h

theorem loopG_done_inArgs {t : TTreeG} {c : Nat} {cs : TCmdG} {fs : FlagSetG} {ws : List Str} {s0 st : LoopStateG}
    {b : Bool} (hl : loopG t c cs fs ws s0 = .done st b) : st.inArgs = s0.inArgs ++ ws := by
  fun_induction loopG t c cs fs ws s0 with
  | case1 => cases hl; simp
  | case2 arg rest s0 s1 hc ih => simp [ih hl, classifyG_next_inArgs hc]
  | case3 => cases hl; rfl
  | case4 => cases hl

/-- **`toParse[:len(toParse)-1]` is never taken of an empty list**: `inArgs` holds every word the loop has taken, and
    before the first word no flag is set -/
theorem C18G_toParse_nonempty (t : TTreeG) (c : Nat) (cs : TCmdG) (fs : FlagSetG) (ws : List Str)
    (st : LoopStateG) (b : Bool) (hl : loopG t c cs fs ws {} = .done st b)
    (fd : FoundG) (hfd : st.inFlag = some fd) : st.inArgs ≠ [] := by
  cases ws with
  | nil => cases hl; cases hfd
  | cons w ws => simp [loopG_done_inArgs hl]

/-- **`Prefix[strings.LastIndex(Prefix, Shorthand):]`** (reached only for a shorthand series): what
    `lookupPosixShorthandArg` returns carries the flag's shorthand letter inside its prefix, so the index is never -1 -/
theorem C18G_series_prefix_contains_shorthand (fs : FlagSetG) :
    ∀ (cs pre : Str) (fd : FoundG), lookupPosixShortG fs pre cs = some fd →
      ∃ c, fd.flag.short = some c ∧ c ∈ fd.prefix_ := by
  intro cs pre fd h
  -- where the look-up stops it returns the flag of the letter `c` with a prefix that holds `pre ++ [c]`
  fun_induction lookupPosixShortG fs pre cs with
  | case1 | case2 => cases h
  | case7 pre c f hl d r2 hd hn ih => exact ih h
  | _ => cases h; exact ⟨_, (lookupShortG_some ‹_›).2, by simp⟩

end Carapace.Props.C18

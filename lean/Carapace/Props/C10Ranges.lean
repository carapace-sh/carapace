/-
  C10 — every loop over a Go map in the library is one that was reviewed for independence of the iteration order.
  `Gen/MapRanges.lean` is regenerated from /repo on every run (file, function, ranged expression, digest of the loop);
  `C10Maps.lean` is the inventory the review was made for (DESIGN.md 13.5 says per loop why the order cannot reach
  the output).  A new loop over a map, or a change of what an existing one does, breaks `C10_map_ranges_covered`;
  the check then searches with the repetition runs of op `repeat`.
-/
import Carapace.Gen.MapRanges
import Carapace.Props.C10Maps

namespace Carapace.Props.C10

theorem C10_map_ranges_covered : Gen.mapRanges = expectedMapRanges := rfl

theorem C10_map_ranges_count : expectedMapRanges.length = 19 := by decide

end Carapace.Props.C10

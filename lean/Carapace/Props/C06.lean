/-
  C06 — error messages always reach the user and cannot be inserted by accident.
  Theorems about the model of `Messages.Integrate` (message.go) and of the pipeline.
-/
import Carapace.Model.Shells
import Carapace.Lemmas.Sort
import Carapace.Lemmas.Str
import Carapace.Props.C05

namespace Carapace.Props.C06
open Carapace.Model

theorem errName_fst (p : Str) (i : Nat) :
    (errName p i).1 = p ++ errS ++ (if i = 0 then [] else Str.natToStr i) := by
  unfold errName
  split <;> simp

theorem errName_inj (p : Str) {i j : Nat} (h : (errName p i).1 = (errName p j).1) : i = j := by
  rw [errName_fst, errName_fst] at h
  have h := List.append_cancel_left h
  split at h <;> split at h
  · omega
  · exact absurd h.symm (Str.natToStr_ne_nil j)
  · exact absurd h (Str.natToStr_ne_nil i)
  · exact Str.natToStr_inj h

theorem containsValue_iff (vs : List RawValue) (s : Str) :
    containsValue vs s = true ↔ s ∈ vs.map (·.value) := by
  simp [containsValue, List.any_eq_true]

/-- The loop ends within its fuel with a free name: names for different counters differ (`errName_inj`), so
    each taken name uses up one element of the budget `bs` (pigeonhole by erasing). -/
theorem findFree_spec (vs : List RawValue) (p : Str) :
    ∀ (fuel : Nat) (bs : List Str) (i : Nat),
      (∀ j, i ≤ j → (errName p j).1 ∈ vs.map (·.value) → (errName p j).1 ∈ bs) →
      bs.length < fuel →
      ∃ k, i ≤ k ∧ findFree vs p fuel i = ((errName p k).1, (errName p k).2, k + 1) ∧
        (errName p k).1 ∉ vs.map (·.value) := by
  intro fuel bs i
  fun_induction findFree vs p fuel i generalizing bs with
  | case1 i v d heq =>
    intro _ h
    cases h
  | case2 fuel i v d heq hc ih =>
    obtain rfl : v = (errName p i).1 := congrArg Prod.fst heq.symm
    intro hb hlen
    -- the name is taken, so it is in the budget: strike it out; the later names differ from it
    have hmem : (errName p i).1 ∈ bs := hb i (Nat.le_refl _) ((containsValue_iff _ _).mp hc)
    have hlen' : (bs.erase (errName p i).1).length < fuel := by
      have := List.length_erase_of_mem hmem
      have := List.length_pos_of_mem hmem
      omega
    obtain ⟨k, hk, hf, hfree⟩ := ih (bs.erase (errName p i).1) (fun j hj hjm => by
      refine (List.mem_erase_of_ne fun heq => ?_).mpr (hb j (by omega) hjm)
      have := errName_inj p heq
      omega) hlen'
    exact ⟨k, by omega, hf, hfree⟩
  | case3 fuel i v d heq hc =>
    obtain ⟨rfl, rfl⟩ : v = (errName p i).1 ∧ d = (errName p i).2 := by simp [heq]
    exact fun _ _ => ⟨i, Nat.le_refl _, rfl, fun hm => hc ((containsValue_iff _ _).mpr hm)⟩

/-- **C06 (entries).** One entry per message, in order, with the message as description; their inserted
    values are pairwise distinct and distinct from all values already present. -/
theorem integrateLoop_spec (errStyle p : Str) :
    ∀ (msgs : List Str) (vs : List RawValue) (i : Nat),
      ∃ errs : List RawValue,
        integrateLoop errStyle p msgs vs i = vs ++ errs ∧
        errs.map (·.description) = msgs ∧
        (∀ e ∈ errs, ∃ k, e.value = (errName p k).1 ∧ e.display = (errName p k).2 ∧ e.style = errStyle) ∧
        (errs.map (·.value)).Nodup ∧
        ∀ e ∈ errs, e.value ∉ vs.map (·.value) := by
  intro msgs vs i
  fun_induction integrateLoop errStyle p msgs vs i with
  | case1 vs i => exact ⟨[], by simp, rfl, by simp, List.nodup_nil, by simp⟩
  | case2 m ms vs i v d i' heq ih =>
    obtain ⟨k, _, hf, hfree⟩ := findFree_spec vs p (vs.length + 1) (vs.map (·.value)) i
      (fun _ _ h => h) (by simp)
    obtain ⟨rfl, rfl, rfl⟩ : v = (errName p k).1 ∧ d = (errName p k).2 ∧ i' = k + 1 := by simpa [heq] using hf
    obtain ⟨errs, hr, hd, hall, hnd, hnot⟩ := ih
    have hnot' : ∀ x ∈ errs, x.value ∉ vs.map (·.value) ∧ x.value ≠ (errName p k).1 := fun x hx => by
      simpa only [List.map_append, List.map_cons, List.map_nil, List.mem_append, List.mem_singleton, not_or]
        using hnot x hx
    refine ⟨_ :: errs, by rw [hr, List.append_assoc, List.singleton_append], by rw [List.map_cons, hd], ?_, ?_, ?_⟩
    · exact List.forall_mem_cons.mpr ⟨⟨k, rfl, rfl, rfl⟩, hall⟩
    · refine List.nodup_cons.mpr ⟨fun hmem => ?_, hnd⟩
      obtain ⟨x, hx, hxe⟩ := List.mem_map.mp hmem
      exact (hnot' x hx).2 hxe
    · exact List.forall_mem_cons.mpr ⟨hfree, fun x hx => (hnot' x hx).1⟩

theorem length_integrateLoop (errStyle p : Str) (msgs : List Str) (vs : List RawValue) (i : Nat) :
    (integrateLoop errStyle p msgs vs i).length = vs.length + msgs.length := by
  obtain ⟨errs, hr, rfl, _⟩ := integrateLoop_spec errStyle p msgs vs i
  simp [hr]

/-- **C06 (at least two entries).** so the shell cannot auto-insert an error text -/
theorem C06_two_entries (errStyle dflt : Str) (msgs : List Str) (vs : List RawValue) (w : Str)
    (hm : msgs ≠ []) : 2 ≤ (integrate errStyle dflt msgs vs w).length := by
  obtain ⟨m0, ms, rfl⟩ := List.exists_cons_of_ne_nil hm
  have hl := length_integrateLoop errStyle (errPrefix w) (m0 :: ms) vs 0
  simp only [integrate, List.isEmpty_cons, Bool.false_eq_true, if_false, length_sortBy, integrateUnsorted]
  split
  · simp only [List.length_append, List.length_cons, List.length_nil]
    omega
  · simp only [List.length_cons] at hl
    omega

/-- **C06 (no-space).** with messages present no trailing space is ever added -/
theorem C06_nospace (sh : Str) (hsh : sh ≠ C05.exportS) (env : Env) (w : Str) (m : Meta)
    (vs : List RawValue) (hm : m.messages ≠ []) (s : Str) :
    SuffixMatcher.matchesStr (pipeline sh env w m vs).1.nospace s = true :=
  C05.C05_messages_force sh hsh env w m vs hm s

/-- nothing is integrated for the formats that have a message channel (list read from the source) -/
theorem C06_channel_shells : Gen.messageShells = ["elvish".toList, "export".toList, "zsh".toList] := by
  repeat rw [String.toList_ofList]
  rfl

/-- for the channel formats the emitted candidates do not depend on the messages -/
theorem C06_channel_untouched (sh : Str) (h : Gen.messageShells.elem sh = true) (env : Env) (w : Str) (m : Meta) (vs : List RawValue) :
    (pipeline sh env w m vs).2 = (pipeline sh env w { m with messages := [] } vs).2 := by
  unfold pipeline
  simp only [h, if_true]

/-- the zsh message field carries every message (sanitised) and then the usage -/
theorem C06_zsh_messages (m : Meta) :
    zshMessages m = (m.messages ++ (if m.usage.isEmpty then [] else [m.usage])).map (san Gen.zsh_message_formatMessage_msg) := rfl

/-- **the filler `_` is false of the code** (finding `filler_typed_E`): one message, no candidates, typed
    `E`: `_` does not extend `E` -/
theorem C06_filler_counterexample :
    ((integrateUnsorted [] [] ["boom".toList] [] ['E']).map (·.value)) = ["ERR".toList, "_".toList]
    ∧ Str.hasPrefix "_".toList ['E'] = false := by decide

/-- partial: when the typed word does not end in `E`, `ER`, `ERR` the filler extends it -/
theorem C06_filler_partial (w : Str) (h : errPrefix w = w) : Str.hasPrefix (errPrefix w ++ ['_']) w = true := by
  rw [h]
  exact Str.hasPrefix_append w ['_']

end Carapace.Props.C06

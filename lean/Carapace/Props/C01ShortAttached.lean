/-
  C01 for a value attached to a shorthand letter: `-n=<TAB>`, `-nva<TAB>`, `-abn=<TAB>`, `-abnva<TAB>`.
  When carapace's `LookupArg` reads the current word as "flag `f` with an attached value" and serves `f`'s
  completion behind the prefix `pfx`, then for every text `v` the flag's type accepts the parser reads
  `pfx ++ v` as: the letters before `f` get their defaults, `f` gets exactly `v`, no further word is taken.
  Hypotheses forced by the proof: no flag uses `=` as its shorthand; `v` is not empty; and in the form
  without `=` (`-nva`) `v` does not start with `=` (`-n` + `=x` is read as `-n=x`: counterexample below).
-/
import Carapace.Props.C01Slots

namespace Carapace.Props.C01
open Carapace.Model Carapace.Spec

/-- the shape of a look-up that found an attached value, and what the parser does with the served prefix
    followed by any acceptable text -/
theorem short_attached {pfs : Pflag.PFlags} (heq : Pflag.findShort pfs '=' = none) :
    ∀ (chain pre : Str) (fd : Found),
      lookupPosixShort (pfs.map Pflag.PFlag.toDef) pre chain = some fd → (fd.args ≠ [] ∨ fd.flag.noOptDef = false) →
      ∃ (f : Pflag.PFlag) (c0 : Char) (body : Str), f ∈ pfs ∧ f.toDef = fd.flag ∧ fd.prefix_ = pre ++ c0 :: body ∧
        (Pflag.findShort pfs c0).isSome ∧ chain.head? = some c0 ∧
        ∀ (v : Str) (next : Option Str), v ≠ [] → ((c0 :: body).getLast? ≠ some '=' → v.head? ≠ some '=') →
          Pflag.valueOk f v = true →
          ∃ sets, Pflag.parseShort pfs (c0 :: body ++ v) next = .ok (sets, false) ∧ sets.getLast? = some (f.name, v) := by
  intro chain
  induction chain with
  | nil => intro pre fd h; simp [lookupPosixShort] at h
  | cons c rest ih =>
    intro pre fd h ha
    obtain ⟨f, hmem, hf, hstep⟩ := lookupPosixShort_cons h
    have hc : c ≠ '=' := by intro e; rw [e, heq] at hf; cases hf
    cases hstep with
    | last hfd hpx _ h0 =>
      -- `-c`: by `ha` the letter has no default; then as for `-cvalue`
      have hn : f.noOptDefVal = none := by simpa [← hfd, h0, Pflag.PFlag.toDef] using ha
      exact ⟨f, c, [], hmem, hfd, hpx, by simp [hf], rfl, fun v next hv hlast hok =>
        ⟨_, Pflag.parseShort_value hf hn hv (hlast (by simp [hc])) hok next, rfl⟩⟩
    | value hfd hpx hn _ =>
      -- `-cvalue`: the served prefix ends in `c`
      exact ⟨f, c, [], hmem, hfd, hpx, by simp [hf], rfl, fun v next hv hlast hok =>
        ⟨_, Pflag.parseShort_value hf hn hv (hlast (by simp [hc])) hok next, rfl⟩⟩
    | eq hfd hpx _ =>
      exact ⟨f, c, ['='], hmem, hfd, hpx, by simp [hf], rfl, fun v next hv _ hok =>
        ⟨_, Pflag.parseShort_attached_eq hf hv hok next, rfl⟩⟩
    | default dv hdv hne hl =>
      -- a letter that takes no value: both go on
      obtain ⟨g, c0, body, hg, hgd, hpx, hc0, hhd, hall⟩ := ih (pre ++ [c]) fd hl ha
      refine ⟨g, c, c0 :: body, hg, hgd, by rw [hpx]; simp, by simp [hf], rfl, fun v next hv hlast hok => ?_⟩
      obtain ⟨sets, hp, hl⟩ := hall v next hv (by simpa [List.getLast?_cons_cons] using hlast) hok
      exact ⟨(f.name, dv) :: sets, Pflag.parseShort_default hf hdv (by simpa [← hhd] using hne) hp,
        by simp [List.getLast?_cons, hl]⟩

/-- **C01 (word level) for a value attached to a shorthand letter.** -/
theorem C01_short_attached_word {pfs : Pflag.PFlags} (heq : Pflag.findShort pfs '=' = none)
    (chain : Str) (fd : Found)
    (h : lookupArg (pfs.map Pflag.PFlag.toDef) ('-' :: chain) = some fd) (hs : isShorthandSeries ('-' :: chain) = true)
    (ha : fd.args ≠ [] ∨ fd.flag.noOptDef = false) :
    ∃ f ∈ pfs, f.toDef = fd.flag ∧ ∃ body, fd.prefix_ = '-' :: body ∧
      ∀ (v : Str) (next : Option Str), v ≠ [] → (body.getLast? ≠ some '=' → v.head? ≠ some '=') →
        Pflag.valueOk f v = true →
        Pflag.wordKind (fd.prefix_ ++ v) = .short (body ++ v) ∧
        ∃ sets, Pflag.parseShort pfs (body ++ v) next = .ok (sets, false) ∧ sets.getLast? = some (f.name, v) := by
  -- a shorthand series: `-` followed by a letter other than `-`
  rcases lookupArg_cases h with ⟨body, e, -⟩ | ⟨c, rest, hc, -, hl⟩
  · cases e; simp [isShorthandSeries] at hs
  · obtain ⟨f, c0, body, hf, hfd, hpx, -, hhead, hall⟩ := short_attached heq (c :: rest) ['-'] fd hl ha
    obtain rfl : c = c0 := by simpa using hhead
    refine ⟨f, hf, hfd, c :: body, by rw [hpx]; rfl, fun v next hv hlast hok => ⟨?_, hall v next hv hlast hok⟩⟩
    rw [hpx]
    exact Pflag.wordKind_short hc

/-- **C01 for the slot of a value attached to a shorthand letter** (any interspersed command, as long as the
    earlier words stay within it): if the traverse model serves flag `name` behind the prefix `pre`, and the
    program's parser accepts the earlier words, then for every acceptable non-empty `v` the line
    `ws ++ [pre ++ v]` is accepted and assigns `v` to that very flag. -/
theorem C01_attached_short_lands {t : TTree} {c : Nat} {cs : TCmd} (h : Stay t c cs) (hi : cs.interspersed = true)
    (heq : Pflag.findShort (flagsAt t (t.size + 1) c) '=' = none)
    (fuel : Nat) (ws : List Str) (hnc : NoChild t c ws) (chain name pre : Str)
    (hser : isShorthandSeries ('-' :: chain) = true)
    (hs : traverseSlot t (fuel + 1) c ws ('-' :: chain) = .flagValueAttached c name pre)
    {p : Pflag.Parsed} (hp : Pflag.parse (flagsAt t (t.size + 1) c) true ws = .ok p) (hd : p.lenAtDash = none) :
    ∀ v, v ≠ [] → (pre.getLast? ≠ some '=' → v.head? ≠ some '=') →
      (∀ f ∈ flagsAt t (t.size + 1) c, f.name = name → Pflag.valueOk f v = true) →
      ∃ p', Pflag.parse (flagsAt t (t.size + 1) c) true (ws ++ [pre ++ v]) = .ok p' ∧ p'.sets.getLast? = some (name, v) := by
  -- the slot comes from the look-up of the current word: something attached, or a value flag with nothing yet
  cases traverseSlot_stay h hnc hs with
  | lookup _ _ hk =>
    cases flagOrPositional_view hk with
    | @attached fd hlk hA =>
      obtain ⟨f, hf, hfd, body, hbody, hall⟩ :=
        C01_short_attached_word heq chain fd hlk hser (hA.imp_right And.right)
      intro v hv hvlast hok
      have hfn : f.name = fd.flag.name := by rw [← hfd]; rfl
      have hlast : body.getLast? ≠ some '=' → v.head? ≠ some '=' := by
        intro hb; apply hvlast
        rw [hbody]
        cases body with
        | nil => simp
        | cons b0 bs => simpa [List.getLast?_cons_cons] using hb
      obtain ⟨hk, sets, hps, hlst⟩ := hall v none hv hlast (hok f hf hfn)
      refine ⟨{ p with sets := p.sets ++ sets }, ?_, by simp [List.getLast?_append, hlst, hfn]⟩
      rw [Pflag.parse_append_open hp hd (.inl rfl)]
      simp [Pflag.parseArgs, hk, hps]

/-- non-vacuity -/
example :
    let cs : TCmd := { name := "prog".toList, flags := [({ name := "name".toList, short := some 'n' }, false), ({ name := "verbose".toList, short := some 'v', kind := .bool }, false)] }
    traverseSlot #[cs] 3 0 ["x".toList] "-vn=a".toList = .flagValueAttached 0 "name".toList "-vn=".toList ∧
    traverseSlot #[cs] 3 0 ["x".toList] "-vna".toList = .flagValueAttached 0 "name".toList "-vn".toList ∧
    traverseSlot #[cs] 3 0 ["x".toList] "-vn".toList = .flagValueAttached 0 "name".toList "-vn".toList ∧
    Pflag.findShort (flagsAt #[cs] 2 0) '=' = none ∧
    (Pflag.parse (flagsAt #[cs] 2 0) true ["x".toList]).toOption = some { args := ["x".toList] } := by
  repeat rw [String.toList_ofList]
  decide

/-- the hypothesis on `v` is needed: behind the prefix `-n` the candidate `=x` is read by the parser as `-n=x`,
    the value `x` -/
theorem short_attached_eq_counterexample :
    let pfs : Pflag.PFlags := [{ name := "name".toList, short := some 'n' }]
    (lookupArg (pfs.map Pflag.PFlag.toDef) "-nv".toList).map (fun fd => (fd.prefix_, fd.args)) = some ("-n".toList, ["v".toList]) ∧
    (Pflag.parseShort pfs "n=x".toList none).toOption = some ([("name".toList, "x".toList)], false) := by
  repeat rw [String.toList_ofList]
  decide

/-- non-vacuity -/
example :
    let pfs : Pflag.PFlags := [{ name := "verbose".toList, short := some 'v', kind := .bool }, { name := "name".toList, short := some 'n' }]
    Pflag.findShort pfs '=' = none ∧
    (lookupArg (pfs.map Pflag.PFlag.toDef) "-vn=a".toList).map (fun fd => (fd.flag.name, fd.prefix_, fd.args))
      = some ("name".toList, "-vn=".toList, ["a".toList]) ∧
    (Pflag.parseShort pfs "vn=abc".toList none).toOption = some ([("verbose".toList, "true".toList), ("name".toList, "abc".toList)], false) := by
  repeat rw [String.toList_ofList]
  decide

end Carapace.Props.C01

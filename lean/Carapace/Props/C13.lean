/-
  C13 — export / import carries a completion across processes without loss.
  The heart of "for any valid Unicode text in any field": the JSON string encoding round-trips.  Then each
  component of the export document is read back from the front of a text, in the sense of `Reads`.
  `C15.bodyE` is declared here because the array cut in `C15Doc.lean` shares it.
-/
import Carapace.Model.ExportDecode
import Carapace.Lemmas.Str

namespace Carapace.Props.C13
open Carapace.Model

/-- the code points that `jsonEncodeChar` does not write as they are -/
def jsonSpecials : List Nat := List.range 0x20 ++ [0x22, 0x26, 0x3C, 0x3E, 0x5C, 0x2028, 0x2029]

/-- a fact about the encoding of every character is evaluated on the special code points; any other character is
    written as it is, and is no control character, quote or backslash -/
theorem jsonSpecials_lift {P : Char → Prop} (h : ∀ n ∈ jsonSpecials, P (Char.ofNat n))
    (hn : ∀ c : Char, jsonEncodeChar c = [c] → 0x20 ≤ c.toNat → c ≠ '"' → c ≠ '\\' → P c) : ∀ c, P c :=
  codes_lift _ h fun c hs => by
    have hs : 0x20 ≤ c.toNat ∧ c.toNat ≠ 0x22 ∧ c.toNat ≠ 0x26 ∧ c.toNat ≠ 0x3C ∧ c.toNat ≠ 0x3E ∧ c.toNat ≠ 0x5C ∧
        c.toNat ≠ 0x2028 ∧ c.toNat ≠ 0x2029 := by simpa [jsonSpecials] using hs
    have hlt : ∀ k < 0x20, c.toNat ≠ k := by omega
    exact hn c (by simp [jsonEncodeChar, hs, hlt]) hs.1 (by simp [← Char.toNat_inj, hs]) (by simp [← Char.toNat_inj, hs])

theorem json_char_all (c : Char) :
    jsonReader.run .normal (jsonEncodeChar c) = some (.normal, [Out.lit c]) := by
  revert c
  exact jsonSpecials_lift (by decide +kernel) fun c hne h20 hq hb => by
    simp [hne, Reader.run_singleton, jsonReader, jsonStep, hq, hb, Nat.not_lt.mpr h20]

theorem litsOf_map_lit (s : Str) : litsOf (s.map Out.lit) = s := by
  rw [litsOf, List.filterMap_map]
  exact List.filterMap_some

theorem run_encodeString (s : Str) :
    jsonReader.run .start (jsonEncodeString s) = some (.done, s.map Out.lit) := by
  have h : jsonReader.run .normal (jsonEncodeBody s) = some (.normal, s.map Out.lit) :=
    jsonReader.run_flatMap .normal s fun c _ => json_char_all c
  simpa [jsonEncodeString] using
    jsonReader.run_cons_of (m := .start) (c := '"') rfl (jsonReader.run_append_silent h (b := ['"']) (by decide))

/-- **C13 (string round trip).** Any valid Unicode text - quotes, backslashes, control
    characters, `<>&`, U+2028/2029, non-BMP text - survives encoding and decoding unchanged. -/
theorem C13_string_roundtrip (s : Str) : jsonDecodeString (jsonEncodeString s) = some s := by
  simp [jsonDecodeString, run_encodeString, litsOf_map_lit]

/-- the encoded body never contains a raw quote, a raw control character or a line break:
    a field cannot break out of its string (so no text can add, remove or shift fields) -/
def bodyCharOk (c : Char) : Bool := (jsonEncodeChar c).all (fun d => d.toNat ≥ 0x20) &&
  ((jsonEncodeChar c).all (fun d => d != '"') || jsonEncodeChar c == ['\\', '"'])

theorem json_body_all : ∀ c, bodyCharOk c = true :=
  jsonSpecials_lift (by decide +kernel) fun c hne h20 hq _ => by simp [bodyCharOk, hne, h20, hq]

theorem json_body_ascii : asciiAll bodyCharOk = true := List.all_eq_true.mpr fun _ _ => json_body_all _

/-- non-vacuity: a text with every kind of character -/
example : jsonDecodeString (jsonEncodeString ("a\"b\\c\n\t<>&" ++ String.singleton (Char.ofNat 0x2028) ++ "é𝄞").toList)
    = some ("a\"b\\c\n\t<>&" ++ String.singleton (Char.ofNat 0x2028) ++ "é𝄞").toList := C13_string_roundtrip _

/-- of `t ++ r` the first `k` characters are there: `d` fails if that cuts into `t`, and otherwise goes on as `f`
    with what is there of `r` -/
def Reads {γ : Type} (d : Str → Option γ) (t : Str) (f : Str → Option γ) : Prop :=
  ∀ r k, d ((t ++ r).take k) = if k < t.length then none else f (r.take (k - t.length))

theorem Reads.full {γ : Type} {d : Str → Option γ} {t : Str} {f : Str → Option γ} (h : Reads d t f) (r : Str) :
    d (t ++ r) = f r := by
  have := h r (t ++ r).length
  rwa [List.take_length, if_neg (by simp), List.length_append, Nat.add_sub_cancel_left, List.take_length] at this

theorem Reads.cut {γ : Type} {d : Str → Option γ} {t : Str} {f : Str → Option γ} (h : Reads d t f) {k : Nat}
    (hk : k < t.length) : d (t.take k) = none := by
  simpa [hk] using h [] k

theorem Reads.of_full_cut {γ : Type} {d : Str → Option γ} {t : Str} {f : Str → Option γ}
    (hfull : ∀ r, d (t ++ r) = f r) (hcut : ∀ k, k < t.length → d (t.take k) = none) : Reads d t f := by
  intro r k
  rw [List.take_append]
  split
  · next h => rw [show k - t.length = 0 by omega, List.take_zero, List.append_nil, hcut k h]
  · next h => rw [List.take_of_length_le (by omega), hfull]

theorem Reads.trans {γ : Type} {d g f : Str → Option γ} {t u : Str} (h₁ : Reads d t g) (h₂ : Reads g u f) :
    Reads d (t ++ u) f := by
  intro r k
  rw [List.append_assoc, h₁, h₂, List.length_append, Nat.sub_sub]
  by_cases hk : k < t.length
  · rw [if_pos hk, if_pos (by omega)]
  · have hlt : k - t.length < u.length ↔ k < t.length + u.length := by omega
    rw [if_neg hk]
    simp only [hlt]

theorem Reads.cont {β γ : Type} {d g : Str → Option β} {K : β → Option γ} {t : Str} (h : Reads d t g) :
    Reads (fun s => (d s).bind K) t (fun r => (g r).bind K) := by
  intro r k
  simp only [h r k]
  split <;> rfl

-- `cont.trans` with `(some (x, r)).bind K` reduced, here and in `Reads.lit`: the form the next decoder of a chain unifies with
theorem Reads.bind {α γ : Type} {d : Str → Option (α × Str)} {K : α × Str → Option γ} {x : α} {t u : Str}
    {f : Str → Option γ} (h₁ : Reads d t (fun r => some (x, r))) (h₂ : Reads (fun r => K (x, r)) u f) :
    Reads (fun s => (d s).bind K) (t ++ u) f :=
  h₁.cont.trans h₂

theorem expect_eq_none {lit s : Str} : expect lit s = none ↔ ¬ lit <+: s := by
  simp [expect, Str.hasPrefix_iff_prefix]

theorem expect_append (l r : Str) : expect l (l ++ r) = some r := by
  rw [expect, if_pos (Str.hasPrefix_append l r), List.drop_left]

theorem expect_reads (lit : Str) : Reads (expect lit) lit some :=
  Reads.of_full_cut (expect_append lit) fun k hk => expect_eq_none.mpr fun hp => by
    have := hp.length_le
    rw [List.length_take] at this
    omega

theorem Reads.lit {γ : Type} {K : Str → Option γ} {u : Str} {f : Str → Option γ} (lit : Str) (h : Reads K u f) :
    Reads (fun s => (expect lit s).bind K) (lit ++ u) f :=
  (expect_reads lit).cont.trans h

theorem expect_take_none {lit s : Str} (j : Nat) (h : expect lit s = none) : expect lit (s.take j) = none :=
  expect_eq_none.mpr fun hp => expect_eq_none.mp h (hp.trans (List.take_prefix j s))

theorem no_pre_brace (name rest : Str) : expect (optPre name) (['}'] ++ rest) = none := by
  simp [expect, optPre, Str.hasPrefix]

theorem run_done_cons (c : Char) (s : Str) : jsonReader.run .done (c :: s) = none := by
  simp [Reader.run, jsonReader, jsonStep]

theorem readLit_done (s : Str) (acc : List Out) : readLit .done s acc = some (acc, s) := by
  cases s <;> simp [readLit]

theorem readLit_reads (a : Str) : ∀ (m : JMode) (o acc : List Out), jsonReader.run m a = some (.done, o) →
    Reads (fun s => readLit m s acc) a (fun r => some (acc ++ o, r)) := by
  induction a with
  | nil =>
    intro m o acc h r k
    obtain ⟨rfl, rfl⟩ : m = .done ∧ o = [] := by simpa [Reader.run] using h
    simp [readLit_done]
  | cons c a ih =>
    intro m o acc h r k
    -- no character leads out of `done`
    have hm : m ≠ .done := fun e => by simp [e, run_done_cons] at h
    obtain ⟨m1, o1, o2, hs, hr, rfl⟩ := jsonReader.run_cons_some h
    cases k with
    | zero => simp [readLit, hm]
    | succ k =>
      simp only [List.cons_append, List.take_succ_cons, readLit, hm, if_false, show jsonStep m c = _ from hs,
        List.length_cons, Nat.add_lt_add_iff_right, Nat.add_sub_add_right, ← List.append_assoc]
      exact ih m1 o2 (acc ++ o1) hr r k

theorem readLit_of_run (a : Str) : ∀ (m : JMode) (o acc : List Out) (rest : Str),
    m ≠ .done → jsonReader.run m a = some (.done, o) → readLit m (a ++ rest) acc = some (acc ++ o, rest) :=
  fun m o acc rest _ h => (readLit_reads a m o acc h).full rest

theorem parseString_eq (s : Str) : parseString s = (readLit .start s []).bind fun p => some (litsOf p.1, p.2) := by
  unfold parseString
  cases readLit .start s [] <;> rfl

theorem parseString_reads (s : Str) : Reads parseString (jsonEncodeString s) (fun r => some (s, r)) := by
  rw [funext parseString_eq]
  simpa [litsOf_map_lit] using
    (readLit_reads (jsonEncodeString s) .start (s.map Out.lit) [] (run_encodeString s)).cont
      (K := fun p => some (litsOf p.1, p.2))

theorem parseString_encode (s rest : Str) : parseString (jsonEncodeString s ++ rest) = some (s, rest) :=
  (parseString_reads s).full rest

theorem encodeString_cons (s : Str) : ∃ r, jsonEncodeString s = '"' :: r := ⟨_, rfl⟩

theorem join_cons (a : Str) (xs : List Str) :
    Str.join [','] (a :: xs) = a ++ xs.flatMap (fun x => ',' :: x) :=
  Str.join_cons [','] a xs

/-- the text of a non-empty array behind its opening bracket -/
def _root_.Carapace.Props.C15.bodyE {α : Type} (enc : α → Str) (x : α) (xs : List α) : Str :=
  enc x ++ (xs.flatMap (fun y => ',' :: enc y)) ++ [']']

theorem bodyE_nil {α : Type} (enc : α → Str) (x : α) : C15.bodyE enc x [] = enc x ++ [']'] := by
  simp [C15.bodyE]

theorem bodyE_cons {α : Type} (enc : α → Str) (x y : α) (ys : List α) :
    C15.bodyE enc x (y :: ys) = enc x ++ ',' :: C15.bodyE enc y ys := by
  simp [C15.bodyE]

theorem jsonArray_cons {α : Type} (enc : α → Str) (x : α) (xs : List α) :
    jsonArray ((x :: xs).map enc) = '[' :: C15.bodyE enc x xs := by
  simp [jsonArray, C15.bodyE, join_cons, List.flatMap_map]

/-- fuel as long as the text will do: every element is followed by its separator or the closing bracket -/
theorem parseElems_encode {α : Type} (elem : Str → Option (α × Str)) (enc : α → Str)
    (h : ∀ x rest, elem (enc x ++ rest) = some (x, rest)) :
    ∀ (xs : List α) (x : α) (n : Nat) (rest : Str), (C15.bodyE enc x xs ++ rest).length ≤ n →
      parseElems elem n (C15.bodyE enc x xs ++ rest) = some (x :: xs, rest) := by
  intro xs
  induction xs with
  | nil =>
    intro x n rest hn
    cases n with
    | zero => simp [bodyE_nil] at hn
    | succ n => simp [bodyE_nil, parseElems, h]
  | cons y ys ih =>
    intro x n rest hn
    simp only [bodyE_cons, List.append_assoc, List.cons_append, List.length_append, List.length_cons] at hn ⊢
    cases n with
    | zero => omega
    | succ n =>
      simp only [parseElems, h]
      rw [ih y n rest (by rw [List.length_append]; omega)]

/-- the fuel is the length of the whole text -/
theorem parseArray_open {α : Type} (elem : Str → Option (α × Str)) (t : Str) (h : ∀ r, t ≠ ']' :: r) :
    parseArray elem ('[' :: t) = parseElems elem (t.length + 1) t := by
  unfold parseArray
  split
  · next heq => simp only [List.cons.injEq, true_and] at heq; exact absurd heq (h _)
  · next heq => simp only [List.cons.injEq, true_and] at heq; subst heq; rfl
  · next h2 => exact absurd rfl (h2 _)

theorem parseArray_encode {α : Type} (elem : Str → Option (α × Str)) (enc : α → Str)
    (h : ∀ x rest, elem (enc x ++ rest) = some (x, rest)) (hne : ∀ x, ∃ c r, enc x = c :: r ∧ c ≠ ']')
    (xs : List α) (rest : Str) :
    parseArray elem (jsonArray (xs.map enc) ++ rest) = some (xs, rest) := by
  cases xs with
  | nil => simp [jsonArray, Str.join, parseArray]
  | cons x xs =>
    obtain ⟨c, t, hc, hne'⟩ := hne x
    rw [jsonArray_cons, List.cons_append, parseArray_open _ _ (by simp [C15.bodyE, hc, hne'])]
    exact parseElems_encode elem enc h xs x _ rest (Nat.le_succ _)

/-- what an `omitempty` field contributes to the text -/
def optText (name s : Str) : Str := if s.isEmpty then [] else optPre name ++ jsonEncodeString s

theorem parseOptField_encode (name s rest : Str) (hrest : expect (optPre name) rest = none) :
    parseOptField name (optText name s ++ rest) = some (s, rest) := by
  unfold optText parseOptField
  cases s with
  | nil => simp [hrest]
  | cons c s => simp [List.append_assoc, expect_append, parseString_encode]

theorem flatMap_field (name value : Str) (fs : List Str) :
    (jsonField name value :: fs).flatMap (fun x => ',' :: x) = optPre name ++ value ++ fs.flatMap (fun x => ',' :: x) := by
  simp [jsonField, optPre]

theorem flatMap_optField (name s : Str) :
    (if s.isEmpty then [] else [jsonField name (jsonEncodeString s)]).flatMap (fun x => ',' :: x) = optText name s := by
  unfold optText
  split <;> simp [jsonField, optPre]

theorem marshalRawValue_eq (v : RawValue) :
    marshalRawValue v = objPre "value".toList ++ jsonEncodeString v.value
      ++ optPre "display".toList ++ jsonEncodeString v.display
      ++ optText "description".toList v.description ++ optText "style".toList v.style
      ++ optText "tag".toList v.tag ++ optText "uid".toList v.uid ++ ['}'] := by
  simp only [marshalRawValue, jsonObject, join_cons, List.cons_append, List.nil_append, List.flatMap_append, flatMap_field,
    flatMap_optField]
  simp only [jsonField, objPre, List.append_assoc, List.cons_append, List.nil_append]

theorem marshalRawValue_head (v : RawValue) : ∃ c r, marshalRawValue v = c :: r ∧ c ≠ ']' :=
  ⟨'{', _, rfl, by decide⟩

/-- the values as they travel: sorted by value (`sort.Sort(ByValue)` in `MarshalJSON`) -/
def wireValues (vs : Option (List RawValue)) : Option (List RawValue) :=
  vs.map (sortBy (fun a b => Str.lt a.value b.value))

theorem pre_description : optPre "description".toList = ",\"description\":".toList := by
  repeat rw [String.toList_ofList]
  rfl
theorem pre_style : optPre "style".toList = ",\"style\":".toList := by
  repeat rw [String.toList_ofList]
  rfl
theorem pre_tag : optPre "tag".toList = ",\"tag\":".toList := by
  repeat rw [String.toList_ofList]
  rfl
theorem pre_uid : optPre "uid".toList = ",\"uid\":".toList := by
  repeat rw [String.toList_ofList]
  rfl

end Carapace.Props.C13

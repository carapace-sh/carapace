/-
  C01, lines that begin with sub-command names: a first word that names a child of the command makes the
  traverse model continue in that child with the remaining words, so the slot of `sub1 sub2 ... words` is the
  slot of `words` in the command the path leads to.  With the slot theorems (which speak about one command)
  this covers lines whose sub-command names come first - the form carapace and cobra agree on; names *behind*
  other words are the listed finding `descent_heuristics`.
-/
import Carapace.Props.C01Slots

namespace Carapace.Props.C01
open Carapace.Model Carapace.Spec

/-- stronger than `Pflag.flagLike w = false`, which the word `-` meets as well -/
theorem childNamed_not_flaglike {t : TTree} {c : Nat} {w : Str} {k : Nat} (h : childNamed t c w = some k) :
    Str.hasPrefix w ['-'] = false := by
  unfold childNamed at h
  split at h
  · cases h
  · rename_i hp; simpa using hp

theorem not_dashdash (s : Str) (h : Str.hasPrefix s ['-'] = false) : s ≠ ['-', '-'] := by
  rintro rfl; cases h

theorem traverseSlot_descend {t : TTree} {c : Nat} {cs : TCmd} (h : Stay t c cs) (fuel : Nat) (w : Str) (k : Nat)
    (hk : childNamed t c w = some k) (ws : List Str) (value : Str) :
    traverseSlot t (fuel + 1) c (w :: ws) value = traverseSlot t fuel k ws value := by
  have hnf := childNamed_not_flaglike hk
  -- neither the `--` nor a flag word: the loop descends at once, having read nothing
  have hl : loop t c cs ((flagsAt t (t.size + 1) c).map (·.toDef)) (w :: ws) {} = .descend k ws [] := by
    simp [loop, classify, not_dashdash w hnf, hnf, hk]
  rw [traverseSlot]
  simp only [h.cmd, h.name1, h.name2, hl, h.parses, Bool.false_eq_true, Bool.or_self, if_false]
  rfl

/-- a path of sub-command names from command `c` to command `k` -/
inductive Path (t : TTree) : Nat → List Str → Nat → Prop where
  | nil (c : Nat) : Path t c [] c
  | cons {c k k' : Nat} {cs : TCmd} {w : Str} {ws : List Str} :
      Stay t c cs → childNamed t c w = some k → Path t k ws k' → Path t c (w :: ws) k'

theorem traverseSlot_path {t : TTree} {c k : Nat} {path : List Str} (hp : Path t c path k) (fuel : Nat) (ws : List Str) (value : Str) :
    traverseSlot t (fuel + path.length) c (path ++ ws) value = traverseSlot t fuel k ws value := by
  induction hp with
  | nil c => rfl
  | @cons c0 k0 k1 cs0 w0 ws0 hst hk _ ih =>
    rw [List.length_cons, ← Nat.add_assoc, List.cons_append, traverseSlot_descend hst _ w0 k0 hk]
    exact ih

/-- **C01, positional slot, behind a path of sub-command names.** -/
theorem C01_positional_lands_after_path {t : TTree} {c k : Nat} {cs : TCmd} {path : List Str} (hp : Path t c path k)
    (h : Stay t k cs) (fuel : Nat) (ws : List Str) (hnc : NoChild t k ws) (w : Str) (hw : Str.hasPrefix w ['-'] = false) (n : Nat)
    (hs : traverseSlot t (fuel + 1 + path.length) c (path ++ ws) w = .positional k n) :
    ∀ w', Pflag.flagLike w' = false →
      ∃ p', Pflag.parse (flagsAt t (t.size + 1) k) cs.interspersed (ws ++ [w']) = .ok p' ∧
            p'.args[n]? = some w' ∧ p'.lenAtDash = none := by
  rw [traverseSlot_path hp] at hs
  exact C01_positional_lands h fuel ws hnc w hw n hs

end Carapace.Props.C01

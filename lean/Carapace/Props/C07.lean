/-
  C07 — offered flag and sub-command names are exactly those still acceptable.
  Theorems about the rule model (`Model/Flags.lean`), which is compared with the real offer on generated
  trees, and about acceptance of an offered shorthand by the parser specification (`pflagShort`).
-/
import Carapace.Model.Flags

namespace Carapace.Props.C07
open Carapace.Model

/-- **the offer rule**: a flag is offered iff it is visible, not deprecated, not already given
    unless repeatable, and no member of its mutually-exclusive groups was given -/
theorem C07_offer_rule (showHidden : Bool) (all : List FlagState) (f : FlagState) :
    offered showHidden all f = true ↔
      (f.hidden = false ∨ showHidden = true) ∧ f.deprecated = false ∧ (f.changed = false ∨ f.repeatable = true) ∧
      mutexBlocked all f = false := by
  simp only [offered, Bool.and_eq_true, Bool.not_eq_true', Bool.and_eq_false_iff, Bool.not_eq_false', and_assoc]

/-- hidden flags never (unless CARAPACE_HIDDEN), deprecated flags never -/
theorem C07_hidden_never (all : List FlagState) (f : FlagState) (h : f.hidden = true) : offered false all f = false := by
  simp [offered, h]

theorem C07_deprecated_never (showHidden : Bool) (all : List FlagState) (f : FlagState) (h : f.deprecated = true) :
    offered showHidden all f = false := by
  simp [offered, h]

/-- an already given flag only if it is repeatable -/
theorem C07_given_only_if_repeatable (showHidden : Bool) (all : List FlagState) (f : FlagState)
    (hc : f.changed = true) (hr : f.repeatable = false) : offered showHidden all f = false := by
  simp [offered, hc, hr]

/-- none once another member of its group was given -/
theorem C07_mutex (showHidden : Bool) (all : List FlagState) (f o : FlagState) (g : List Str)
    (hg : g ∈ f.groups) (hn : o.fdef.name ∈ g) (ho : o ∈ all) (hc : o.changed = true) (hog : g ∈ o.groups) :
    offered showHidden all f = false := by
  have : mutexBlocked all f = true := by
    simp only [mutexBlocked, List.any_eq_true, Bool.and_eq_true, beq_iff_eq, List.contains_iff_mem]
    exact ⟨g, hg, o.fdef.name, hn, o, ho, ⟨rfl, hc⟩, hog⟩
  simp [offered, this]

/-- a given flag that merely has the *name* of a group member - a local flag shadowing an inherited member - blocks
    nothing (the program accepts both, as cobra's own validation does; fix 39ab3c2) -/
theorem C07_mutex_shadowed :
    let pmid : FlagState := { fdef := { name := "pmid".toList }, groups := [["pmid".toList, "all".toList]] }
    let all' : FlagState := { fdef := { name := "all".toList, noOptDef := true, takesValue := false }, changed := true, groups := [["all".toList]] }
    offered false [all', pmid] pmid = true := by
  repeat rw [String.toList_ofList]
  decide

/-- **false of carapace as modelled** (finding `mutex_counts_flag_itself`): a *repeatable* flag that
    belongs to a mutually-exclusive group is no longer offered once it was given itself, although
    `--tag a --tag b` is accepted -/
theorem C07_mutex_self_counterexample :
    let tag : FlagState := { fdef := { name := "tag".toList }, changed := true, repeatable := true,
                             groups := [["tag".toList, "other".toList]] }
    let other : FlagState := { fdef := { name := "other".toList }, groups := [["tag".toList, "other".toList]] }
    offered false [tag, other] tag = false := by
  repeat rw [String.toList_ofList]
  decide

/-- **a shorthand offered inside an open series is accepted by the parser**: if every letter typed so far
    takes no argument, appending the shorthand of any flag completes the word or waits for that flag's value -/
theorem C07_chain_accepted (fs : FlagSet) (heq : lookupShort fs '=' = none) (s : Char) (g : FlagDef)
    (hs : lookupShort fs s = some g) :
    ∀ cs : Str, (∀ c ∈ cs, ∃ f, lookupShort fs c = some f ∧ f.noOptDef = true) →
      pflagShort fs (cs ++ [s]) = (if g.noOptDef then .done else .pending g) := by
  intro cs h
  have ne : ∀ {d f}, lookupShort fs d = some f → d ≠ '=' := fun hf e => by rw [e, heq] at hf; cases hf
  induction cs with
  | nil => simp [pflagShort, hs]
  | cons c rest ih =>
    obtain ⟨f, hf, hn⟩ := h c (List.mem_cons_self ..)
    -- the parser walks over `c`: what follows begins with the letter of a flag, hence not with `=`
    rw [← ih fun d hd => h d (List.mem_cons_of_mem _ hd), List.cons_append, pflagShort]
    cases rest with
    | nil => simp [hf, hn, ne hs]
    | cons d r =>
      obtain ⟨f', hf', -⟩ := h d (by simp)
      simp [hf, hn, ne hf']

end Carapace.Props.C07

/-
  C01 for the slot `--name=<TAB>`: the value attached to a long flag (any interspersed command, as long as
  the earlier words stay within it).  If the traverse model completes the value of flag `name` behind the
  prefix `pre` for a current word `--...`, then `pre` is `--name=` and for any text `v` the flag's type
  accepts the word `pre ++ v` is accepted by the program's parser and assigns `v` to that very flag.
-/
import Carapace.Props.C01Flag

namespace Carapace.Props.C01
open Carapace.Model Carapace.Spec

theorem isSeries_false_long (body : Str) : isShorthandSeries ('-' :: '-' :: body) = false := by
  simp [isShorthandSeries]

theorem cutChar_fst_not_mem (d : Char) (s : Str) : d ∉ (Str.cutChar d s).1 := by
  rcases Str.cutChar_cases d s with ⟨h, e⟩ | ⟨a, b, h, -, e⟩ <;> rwa [e]

theorem long_attached_accepted {pfs : Pflag.PFlags} (hn : NamesOk pfs) {ws : List Str} {p : Pflag.Parsed}
    (hp : Pflag.parse pfs true ws = .ok p) (hd : p.lenAtDash = none)
    {f : Pflag.PFlag} (hf : Pflag.findLong pfs f.name = some f) (v : Str) (hv : Pflag.valueOk f v = true) :
    Pflag.parse pfs true (ws ++ ["--".toList ++ f.name ++ ['='] ++ v]) = .ok { p with sets := p.sets ++ [(f.name, v)] } := by
  rw [Pflag.parse_append_open hp hd (.inl rfl)]
  have hne : f.name ++ '=' :: v ≠ [] := by simp
  simp [Pflag.parseArgs, Pflag.wordKind_long hne, parseLong_name_eq hn hf, hv]

/-- **C01 for the slot of a value attached to a long flag.** -/
theorem C01_attached_long_lands {t : TTree} {c : Nat} {cs : TCmd} (h : Stay t c cs) (hi : cs.interspersed = true)
    (hn : NamesOk (flagsAt t (t.size + 1) c)) (fuel : Nat) (ws : List Str) (hnc : NoChild t c ws) (body name pre : Str)
    (hs : traverseSlot t (fuel + 1) c ws ('-' :: '-' :: body) = .flagValueAttached c name pre) :
    pre = "--".toList ++ name ++ ['='] ∧
    ∀ v, (∀ f ∈ flagsAt t (t.size + 1) c, f.name = name → Pflag.valueOk f v = true) →
      ∃ p', Pflag.parse (flagsAt t (t.size + 1) c) true (ws ++ [pre ++ v]) = .ok p' ∧ p'.sets.getLast? = some (name, v) := by
  cases traverseSlot_stay h hnc hs with
  | @lookup _ p _ hp hd hk =>
    cases flagOrPositional_view hk with
    | @attached fd hlk ha =>
      rw [hi, seriesFix_plain (isSeries_false_long body)] at hp
      -- the look-up of `--body` found something attached: the text before the `=` names the flag
      rw [lookupArg_long] at hlk
      obtain ⟨f, hmem, hf, hfd, ⟨-, he⟩ | ⟨hpre, -⟩⟩ := lookupPosixLong_some hlk
      · simp [he, Str.hasPrefix] at ha
      · have hname : fd.flag.name = f.name := by rw [← hfd]; rfl
        rw [hpre, hname]
        exact ⟨rfl, fun v hv => ⟨_, long_attached_accepted hn hp hd hf v (hv f hmem rfl), by simp⟩⟩

/-- non-vacuity -/
example :
    let cs : TCmd := { name := "prog".toList, flags := [({ name := "name".toList, short := some 'n' }, false)] }
    traverseSlot #[cs] 3 0 ["x".toList] "--name=va".toList = .flagValueAttached 0 "name".toList "--name=".toList := by
  repeat rw [String.toList_ofList]
  decide

end Carapace.Props.C01
